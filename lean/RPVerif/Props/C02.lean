import RPVerif.Lemmas.NodeList
import RPVerif.Lemmas.SchedShape
import RPVerif.Lemmas.SchedRun

/-!
# C02 — A granted placement has exactly the requested shape
-/
namespace RPVerif.C02
open RPVerif.Sched List

/-- **shape of every rank's share**: each slot returned by the per-node search
    lies on that node, holds exactly `cores_per_rank` distinct cores, the
    requested GPU amount (that many distinct whole GPUs, or one GPU with exactly
    the requested share, or none), and the requested storage and memory -/
theorem C02_slot_shape (n : NodeSt) (nSlots cps gpr lfs mem : Nat) (p : Bool) (slots : List Slot)
    (hcps : 0 < cps) (hl : lfs ≠ 0 → (0 : Int) ≤ n.lfs) (hm : mem ≠ 0 → (0 : Int) ≤ n.mem)
    (h : findResources n nSlots cps gpr lfs mem p = .ok (some slots)) :
    ∀ sl ∈ slots,
      sl.node = n.index ∧ sl.cores.length = cps ∧ sl.cores.Nodup ∧ sl.lfs = lfs ∧ sl.mem = mem
      ∧ (gpr ≥ 16 → sl.gpus.length = gpr / 16 ∧ (sl.gpus.map (·.1)).Nodup ∧ ∀ g ∈ sl.gpus, g.2 = 16)
      ∧ (0 < gpr ∧ gpr < 16 → ∃ g, sl.gpus = [(g, gpr)])
      ∧ (gpr = 0 → sl.gpus = []) := by
  intro sl hsl
  have hfit := (findResources_fit hcps hl hm h).1
  obtain ⟨hnode, hlen, hlfs, hmem, hwhole, hfrac, hzero⟩ := hfit.shape sl hsl
  refine ⟨hnode, hlen, ?_, hlfs, hmem, ?_, hfrac, hzero⟩
  · -- cores of one slot are a sublist of all cores, which are strictly increasing
    have hsub : sl.cores.Sublist (allCores slots) := by
      unfold allCores
      rw [flatMap_def]
      exact sublist_flatten_of_mem (mem_map_of_mem hsl)
    exact (hfit.cores_inc.sublist hsub).imp Nat.ne_of_lt
  · intro hw
    obtain ⟨hcount, hinc, h16⟩ := hwhole hw
    exact ⟨hcount, hinc.imp Nat.ne_of_lt, h16⟩

/-- never more slots than asked for; exactly as many unless a partial answer was allowed -/
theorem C02_slot_count (n : NodeSt) (nSlots cps gpr lfs mem : Nat) (p : Bool) (slots : List Slot)
    (hcps : 0 < cps) (hl : lfs ≠ 0 → (0 : Int) ≤ n.lfs) (hm : mem ≠ 0 → (0 : Int) ≤ n.mem)
    (h : findResources n nSlots cps gpr lfs mem p = .ok (some slots)) :
    slots.length ≤ nSlots ∧ (p = false → slots.length = nSlots) :=
  (findResources_fit hcps hl hm h).2

/-- **a request that cannot be met as stated is refused, not granted smaller**: for `gpus_per_rank` above
    one and not whole, whatever the node looks like, the search returns no slot at all (or the error) - in
    particular never `floor(gpus_per_rank)` whole GPUs per rank -/
theorem C02_fractional_above_one (n : NodeSt) (nSlots cps gpr lfs mem : Nat) (p : Bool) (slots : List Slot)
    (h1 : gpr ≥ 16) (h2 : gpr % 16 ≠ 0) (h : findResources n nSlots cps gpr lfs mem p = .ok (some slots)) :
    slots = [] := by
  -- the loop never gets past a state: it returns the slots it was started with
  have key : ∀ (k : Nat) (st : FRState) (res : List Slot), findLoop n cps gpr lfs mem k st = .ok res → res = st.slots := by
    intro k st res h
    fun_induction findLoop n cps gpr lfs mem k st with
    | case1 st => cases h; rfl
    | case2 k st e hf => cases h
    | case3 k st hf => cases h; rfl
    | case4 k st st' hf ih => exact absurd hf (findOne_fractional h1 h2)
  revert h
  fun_cases findResources n nSlots cps gpr lfs mem p with
  | case1 | case2 => intro h; cases h
  | case3 res hl _ =>
    intro h
    cases h
    exact key nSlots {} slots hl

/-- **a request whose per-rank needs exceed a single node is rejected** (an
    AssertionError, i.e. the task is FAILED), never granted a smaller placement -/
theorem C02_reject (c : Cfg) (s : SchedSt) (r : Req)
    (h : (if r.cpr = 0 then 1 else r.cpr) > c.cpn ∨ r.gpr > c.gpn * 16 ∨ r.lfs > c.lfsPn ∨ r.mem > c.memPn) :
    scheduleTask c s r = (.error .assertion, s) := by
  unfold scheduleTask
  rw [if_pos (by unfold cpsOf; exact h)]

/-- a single-rank (non-MPI) task needing more ranks than one node can host is a ValueError -/
theorem C02_nonmpi_single_node (c : Cfg) (s : SchedSt) (r : Req)
    (h0 : ¬ ((if r.cpr = 0 then 1 else r.cpr) > c.cpn ∨ r.gpr > c.gpn * 16 ∨ r.lfs > c.lfsPn ∨ r.mem > c.memPn))
    (h1 : ¬ r.ranks > 1) (h2 : r.ranks.toNat > slotsPerNode c r (if r.cpr = 0 then 1 else r.cpr)) :
    scheduleTask c s r = (.error .value, s) := by
  unfold scheduleTask
  rw [if_neg (by unfold cpsOf; exact h0)]
  rw [if_pos ⟨fun h => h1 (of_decide_eq_true h), by unfold cpsOf; exact h2⟩]

/-- the ranks-per-node limit bounds the number of slots asked of any one node -/
theorem C02_ranks_per_node (c : Cfg) (r : Req) (cps : Nat) (h : r.rpn ≠ 0) : slotsPerNode c r cps ≤ r.rpn :=
  slotsPerNode_le_rpn c r cps h

/-! ## the application-level slot finder -/

open RPVerif.NodeList in
/-- a slot of `Node.find_slot` lies on the searched node and has exactly the requested number of
    cores and GPUs, each with the requested occupation, and the requested storage and memory -/
theorem C02_nodelist_slot_shape (n n' : ANode) (rr : RR) (s : ASlot) (h : findSlot n rr = some (s, n')) :
    s.node = n.index ∧ s.cores.length = rr.nCores ∧ s.gpus.length = rr.nGpus ∧ s.lfs = rr.lfs ∧ s.mem = rr.mem
    ∧ (∀ e ∈ s.cores, e.2 = rr.coreOcc) ∧ (∀ e ∈ s.gpus, e.2 = rr.gpuOcc) := by
  obtain ⟨rfl, _, hc, hg, _⟩ := findSlot_spec h
  refine ⟨rfl, hc, hg, rfl, rfl, ?_⟩
  rw [mkSlot_eq]
  exact ⟨fun _ => scan_snd, fun _ => scan_snd⟩

/-! ## whole placements (several nodes) -/

/-- **a granted placement covers exactly the requested ranks, each of the requested shape**: whatever
    the node map (any occupancy), the starting node and the mode, what `schedule_task` returns has one
    slot per rank; every slot lies on a node of the pilot and holds `cores_per_rank` cores, the
    requested GPU amount (k whole GPUs / one GPU with exactly the share / none), storage and memory;
    no node carries more slots than `slots_per_node`, hence never more than `ranks_per_node` -/
theorem C02_placement (c : Cfg) (s : SchedSt) (r : Req) (slots : List Slot) (hw : NodesWF s.nodes) (hnn : NonNeg s.nodes)
    (h : (scheduleTask c s r).1 = .ok (some slots)) :
    slots.length = r.ranks.toNat
    ∧ (∀ sl ∈ slots, SlotOK (cpsOf r) r sl ∧ ∃ n ∈ s.nodes, n.index = sl.node)
    ∧ (∀ idx, slotsOn slots idx ≤ slotsPerNode c r (cpsOf r))
    ∧ (r.rpn ≠ 0 → ∀ idx, slotsOn slots idx ≤ r.rpn) := by
  have h1 := scheduleTask_shape c s r slots hnn h
  refine ⟨h1.1, fun sl hs => ⟨h1.2.1 sl hs, (h1.2.2 sl hs).1⟩, fun idx => (scheduleTask_pernode c s r slots hw hnn h idx).1,
          fun hr idx => (scheduleTask_pernode c s r slots hw hnn h idx).2 hr⟩

/-- **colocation**: a task whose colocate tag already has a history is placed only on nodes of that
    history, and the history recorded for the tag afterwards is the list of its own nodes - so by
    induction every later task of the tag stays on nodes the first one got -/
theorem C02_colocate (c : Cfg) (s : SchedSt) (r : Req) (tag : Nat) (l : List Nat) (slots : List Slot)
    (hnn : NonNeg s.nodes) (ht : r.colo = some tag) (hh : s.coloHist.find? (fun e => e.1 = tag) = some (tag, l))
    (h : (scheduleTask c s r).1 = .ok (some slots)) :
    (∀ sl ∈ slots, sl.node ∈ l)
    ∧ (scheduleTask c s r).2.coloHist.find? (fun e => e.1 = tag) = some (tag, slots.map (·.node)) :=
  scheduleTask_colocate c s r tag l slots hnn ht hh h

/-- the rank count, the shape of every slot and the `ranks_per_node` bound of `C02_placement` in every state the
    scheduling loop can reach (`RunOK` scripts): the hypotheses on the node map are consequences of the global
    invariant -/
theorem C02_placement_reachable (c : Cfg) (nodes0 : List NodeSt) (its : List Iter) (hw : NodesWF nodes0) (hnn : NonNeg nodes0)
    (hok : RunOK c { nodes := nodes0 } true its) (r : Req) (slots : List Slot)
    (h : (scheduleTask c (runLoop c { nodes := nodes0 } true its []).1 r).1 = .ok (some slots)) :
    slots.length = r.ranks.toNat
    ∧ (∀ sl ∈ slots, SlotOK (cpsOf r) r sl)
    ∧ (r.rpn ≠ 0 → ∀ idx, slotsOn slots idx ≤ r.rpn) := by
  have hinv := (runLoop_sinv c nodes0 its hw hnn hok).1
  obtain ⟨hlen, hshape, _, hrpn⟩ := C02_placement c _ r slots (hinv_wf nodes0 _ _ hinv) (hinv_nonneg nodes0 _ _ hinv) h
  exact ⟨hlen, fun sl hs => (hshape sl hs).1, hrpn⟩

end RPVerif.C02
