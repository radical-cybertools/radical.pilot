import RPVerif.Model.Pipeline
import RPVerif.Lemmas.Pipeline
import RPVerif.Props.C06
import RPVerif.Lemmas.Timeout
import RPVerif.Gen.States
import RPVerif.Gen.Exec

/-!
# C05 — Every submitted task ends in one final state that tells the truth

`Plan` says what goes wrong for a task (which staging step cannot be carried out, how
execution ends, whether staging on error was requested); `run` says which state
notifications the components publish for it.  The theorems hold for every plan; the
composition with the client (`C05_client`) holds for every order and batching in which the
notifications arrive, among notifications of any other tasks.
-/
namespace RPVerif.C05
open List RPVerif.Pipeline RPVerif.States

/-- the task reaches the executor -/
def reached (p : Plan) : Prop := p.tmgrInFails = false ∧ p.agentInFails = false

/-- an output directive that is attempted cannot be carried out -/
def stageFault (p : Plan) : Prop := staged p = true ∧ (p.agentOutFails = true ∨ p.tmgrOutFails = true)

instance (p : Plan) : Decidable (reached p) := by unfold reached; infer_instance
instance (p : Plan) : Decidable (stageFault p) := by unfold stageFault; infer_instance

/-- **the final state tells the truth** -/
theorem C05_truth (p : Plan) :
    (final p = .done ↔ reached p ∧ p.exec = .exit 0 ∧ p.agentOutFails = false ∧ p.tmgrOutFails = false)
    ∧ (final p = .canceled ↔ reached p ∧ p.exec = .canceled ∧ ¬ stageFault p)
    ∧ (final p = .failed ↔ ¬ reached p ∨ p.exec = .noLauncher ∨ p.exec = .launchError
                            ∨ (∃ n, n ≠ 0 ∧ p.exec = .exit n) ∨ stageFault p)
    ∧ (final p).isFinal = true := by
  rcases run_cases p with
    ⟨(hc : ¬ reached p ∨ p.exec = .noLauncher ∨ p.exec = .launchError ∨ stageFault p), hf, -⟩
    | ⟨(hr : reached p), hn, hl, (hs : ¬ stageFault p), hf, -⟩
  · -- a step fails (`hc` says which)
    rw [hf]
    refine ⟨⟨nofun, ?_⟩, ⟨nofun, ?_⟩, ⟨fun _ => ?_, fun _ => rfl⟩, rfl⟩
    · rintro ⟨hr, he, ha, ht⟩
      rcases hc with h | h | h | ⟨_, h | h⟩
      · exact absurd hr h
      · rw [he] at h
        cases h
      · rw [he] at h
        cases h
      · rw [ha] at h
        cases h
      · rw [ht] at h
        cases h
    · rintro ⟨hr, he, hs⟩
      rcases hc with h | h | h | h
      · exact absurd hr h
      · rw [he] at h
        cases h
      · rw [he] at h
        cases h
      · exact absurd h hs
    · exact hc.imp_right fun h => h.imp_right fun h => h.imp_right .inr
  · -- no step fails
    rw [hf, targetOf_eq_done, targetOf_eq_canceled, targetOf_eq_failed]
    refine ⟨⟨fun he => ⟨hr, he, ?_⟩, fun h => h.2.1⟩, ?_, ?_, targetOf_isFinal _⟩
    · -- output staging is attempted after exit code 0, and no attempted staging fails
      simpa [stageFault, staged_of_exit_zero he] using hs
    · simp [hr, hs]
    · simp [hr, hn, hl, hs]

/-- **what is recorded**: a task reported FAILED carries an exception (a non-zero exit code is
    recorded too when the process ran); a task reported DONE carries exit code 0 and no exception -/
theorem C05_recorded (p : Plan) :
    (final p = .failed → (run p).exception = true)
    ∧ (final p = .done → (run p).exitCode = some 0 ∧ (run p).exception = false)
    ∧ (∀ n, reached p → p.exec = .exit n → (run p).exitCode = some n) := by
  have hcode : ∀ n, reached p → p.exec = .exit n → (run p).exitCode = some n :=
    fun n hr he => run_exitCode hr.1 hr.2 he
  rcases run_cases p with ⟨-, hf, hx, -⟩ | ⟨hr, -, -, -, hf, hx, -⟩
  · rw [hf]
    exact ⟨fun _ => hx, nofun, hcode⟩
  · rw [hf, hx]
    exact ⟨fun h => decide_eq_true h,
      fun h => ⟨hcode 0 hr (targetOf_eq_done.mp h), by rw [h]; rfl⟩, hcode⟩

/-- **one final state**: the published notifications are non-final states followed by the final
    state (published once, or twice by the client side output stager - the same state both times) -/
theorem C05_one_final (p : Plan) :
    ∃ pre k, (run p).emits = pre ++ List.replicate (k + 1) (final p)
      ∧ (∀ s ∈ pre, s.isFinal = false) ∧ (∀ s ∈ (run p).emits, s.WF C06.N) := by
  have hN : C06.N = 15 := by decide
  have ⟨pre, k, he, hpre⟩ : ∃ pre k, (run p).emits = pre ++ List.replicate (k + 1) (final p)
      ∧ ∀ s ∈ pre, s.isFinal = false ∧ s.WF 15 := by
    rcases run_cases p with ⟨-, hf, -, n, he⟩ | ⟨-, -, -, -, hf, -, k, he⟩
    · exact ⟨_, 0, by rw [he, hf]; rfl, fun s hs => wayStates_nonfinal s (mem_of_mem_take hs)⟩
    · exact ⟨_, k, by rw [he, hf], wayStates_nonfinal⟩
  refine ⟨pre, k, he, fun s hs => (hpre s hs).1, fun s hs => ?_⟩
  rw [he] at hs
  rw [hN]
  rcases mem_append.mp hs with h | h
  · exact (hpre s h).2
  · rw [eq_of_mem_replicate h]
    exact wf_of_final (C05_truth p).2.2.2

/-- **what the application sees**: whatever the order and batching in which the notifications of
    this task reach the task manager, mixed with notifications of any other tasks, the task ends in
    exactly the final state of its plan, and no callback announces another final state -/
theorem C05_client (p : Plan) (ts : Tasks) (bs : List (List Upd)) (hn : (uids ts).Nodup)
    (hw : ∀ b ∈ bs, ∀ u ∈ b, u.state.WF C06.N) (t : Task) (ht : t ∈ ts)
    (hnf : t.state.isFinal = false) (htw : t.state.WF C06.N)
    (hmine : ∀ u ∈ bs.flatten, u.uid = t.uid → u.state ∈ (run p).emits)
    (hfin : ∃ u ∈ bs.flatten, u.uid = t.uid ∧ u.state = final p) :
    ∃ t', (runBatches C06.N ts bs).1.find? (fun x => x.uid = t.uid) = some t' ∧ t'.state = final p := by
  have hwf : ∀ u ∈ bs.flatten, u.state.WF C06.N := forall_mem_flatten.mpr hw
  have ⟨p1, _⟩ := runBatches_proj (N := C06.N) bs hw ts t (find_of_mem hn ht)
  refine ⟨_, p1, ?_⟩
  obtain ⟨pre, k, hem, hpre, _⟩ := C05_one_final p
  have hfinal : (final p).isFinal = true := (C05_truth p).2.2.2
  apply foldOne_final (final p) hfinal bs.flatten hwf t hnf htw
  · intro u hu huid hfu
    have hm := hmine u hu huid
    rw [hem] at hm
    rcases mem_append.mp hm with h | h
    · have := hpre _ h; rw [hfu] at this; cases this
    · exact eq_of_mem_replicate h
  · exact hfin

/-- a work routine that does not raise leaves every thing of the bulk with what was published for it;
    one that raises fails every thing of the bulk, the component itself goes on (`work_cb` returns) -/
theorem C05_work_cb (handled : List (List St)) (rest : Nat) :
    workCb handled rest false = handled
    ∧ (workCb handled rest true).length = handled.length + rest
    ∧ ∀ l ∈ workCb handled rest true, l.getLast? = some .failed := by
  refine ⟨rfl, by simp [workCb], ?_⟩
  intro l hl
  simp only [workCb, if_true, mem_append, mem_map, mem_replicate] at hl
  rcases hl with ⟨a, _, rfl⟩ | ⟨_, rfl⟩
  · simp
  · rfl

/-- the plan of one task is all that its notifications depend on: the tasks of a bulk are handled
    one by one, each inside its own error handler (tied by the correspondence with real bulks) -/
theorem C05_isolation (ps : List Plan) (i : Nat) (p : Plan) (h : ps[i]? = some p) :
    (ps.map run)[i]? = some (run p) := by
  simp [h]

/-- non-vacuity -/
example : final { tmgrInFails := false, agentInFails := false, exec := .exit 0, stageOnError := false,
                  agentOutFails := false, tmgrOutFails := false, hasTmgrOut := true } = .done := by decide
example : (run { tmgrInFails := false, agentInFails := false, exec := .exit 3, stageOnError := true,
                 agentOutFails := false, tmgrOutFails := true, hasTmgrOut := true }).emits.getLast? = some .failed := by decide

/-! ## CANCELED only if a timeout was requested: the executor's timeout watcher

`Timeout.run` is every history of `handle_timeout` calls (`reg`), `task_startup_done` messages (`done`)
and passes of the watcher loop (`pass`), at any times; it returns every `cancel_task` call of the watcher
as (time, task). -/

open RPVerif.Timeout in
/-- **every cancellation by the watcher stems from a timeout the task asked for, and that timeout has run
    out**: there is a nonzero startup or execution timeout `v` of this task, counted from its launch
    (`handle_timeout`) or from a reported startup, with `t0 + v` before the time of the cancellation -/
theorem C05_watcher_cancel_justified (hist : List (Nat × Ev)) (t u : Nat) (h : (t, u) ∈ (run {} hist).2) :
    ∃ t0 v, v ≠ 0 ∧ t0 + v < t ∧
      ((∃ st et, (t0, Ev.reg u st et) ∈ hist ∧ v = (if st ≠ 0 then st else et)) ∨ (t0, Ev.done u v) ∈ hist) := by
  obtain ⟨ct, hlt, t0, v, hv, rfl, hsrc⟩ :=
    run_justified hist {} hist (fun _ hx => hx) ⟨nofun, nofun⟩ t u h
  exact ⟨t0, v, hv, hlt, hsrc⟩

open RPVerif.Timeout in
/-- a task that asked for no timeout at all is never cancelled by the watcher -/
theorem C05_no_timeout_never_cancelled (hist : List (Nat × Ev)) (u : Nat)
    (hreg : ∀ t0 st et, (t0, Ev.reg u st et) ∈ hist → st = 0 ∧ et = 0)
    (hdone : ∀ t0 et, (t0, Ev.done u et) ∈ hist → et = 0) (t : Nat) :
    (t, u) ∉ (run {} hist).2 := by
  intro h
  obtain ⟨t0, v, hv, _, hsrc⟩ := C05_watcher_cancel_justified hist t u h
  rcases hsrc with ⟨st, et, hm, rfl⟩ | hm
  · obtain ⟨rfl, rfl⟩ := hreg t0 st et hm
    simp at hv
  · exact hv (hdone t0 v hm)

open RPVerif.Timeout in
/-- **a reported startup replaces the startup deadline**: once a task without an execution timeout has
    reported its startup, the watcher does not cancel it at its next pass, whenever that runs and whatever
    other tasks register or report in between -/
theorem C05_reported_startup_clears (w : TW) (t u : Nat) (hu : u ∉ w.gone)
    (evs : List (Nat × Ev)) (hq : ∀ x ∈ evs, Quiet u x.2) (now : Nat) :
    u ∉ (pass (run (startupDone w t u 0) evs).1 now).2 := by
  -- handed to the watcher: the earlier entries, the reported startup (cancel time 0), entries of other tasks
  obtain ⟨ys, h1, h2, _⟩ := run_quiet (startupDone w t u 0) u evs hq
  have h0 : (startupDone w t u 0).pending = w.pending ++ [{ uid := u, ct := 0, started := true }] := by
    rw [startupDone, if_neg (by simpa using hu)]
    rfl
  exact pass_after_startup _ w.pending ys u now (by rw [h1, h0]) h2

/-- tests: a startup timeout of 3 with the startup reported at t=2 and no execution timeout - no
    cancellation ever; without the report the task is cancelled at the first pass after t=4 -/
example : (Timeout.run {} [(1, .reg 0 3 0), (2, .done 0 0), (9, .pass), (50, .pass)]).2 = [] := by decide
example : (Timeout.run {} [(1, .reg 0 3 0), (4, .pass), (5, .pass), (9, .pass)]).2 = [(5, 0)] := rfl

theorem viewRun_inv (acc : St → St → Bool) (ns : List Note) (v : View)
    (hn : ∀ n ∈ ns, n.st.isFinal = true → n.full = true) (hv : v.st.isFinal = true → v.details = true) :
    (viewRun acc v ns).st.isFinal = true → (viewRun acc v ns).details = true := by
  refine foldlRecOn (motive := fun v => v.st.isFinal = true → v.details = true) ns (viewStep acc) hv fun v hv n hm => ?_
  unfold viewStep
  by_cases ha : acc v.st n.st = true
  · rw [if_pos ha]
    exact fun hf => by rw [hn n hm hf, Bool.or_true]
  · rw [if_neg ha]
    exact hv

/-- **C05, exit code and exception under every delivery order**: with the publish loop of `BaseComponent.advance` as
    the translator reads it from the source (`Gen.publishFinalByThing`: a thing in a final state is published in full,
    whatever state argument the call carried), for EVERY list of notifications components publish for a task - in any
    order, with duplicates, any of them dropped by any acceptance rule of the client - a task the client records in a
    final state has its details (exit code, exception) recorded too -/
theorem C05_final_carries_details (acc : St → St → Bool)
    (calls : List (Bool × Option St × St)) (v : View) (hv : v.st.isFinal = false) :
    let ns := calls.map (fun c => noteOf Gen.publishFinalByThing c.1 c.2.1 c.2.2)
    (viewRun acc v ns).st.isFinal = true → (viewRun acc v ns).details = true := by
  have e : Gen.publishFinalByThing = true := rfl
  intro ns
  apply viewRun_inv
  · intro n hn hf
    simp only [ns, mem_map] at hn
    obtain ⟨c, _, rfl⟩ := hn
    rw [e] at hf ⊢
    simp only [noteOf, if_true] at hf ⊢
    simp [hf]
  · intro h
    rw [hv] at h
    cases h

/-- the test matters: judged by the state argument, the client's output staging (it sets the final state on the task and
    advances without a state) publishes DONE without the task; delivered before the agent's full update, which the client
    then refuses as no progression, the task is DONE and its exit code is unknown -/
theorem C05_final_carries_details_witness :
    let acc : St → St → Bool := fun cur tgt => decide (cur.val 15 < tgt.val 15)
    (viewRun acc ⟨.nf 1, false⟩ [noteOf false false none .done, noteOf false true (some (.nf 13)) (.nf 13)]) = ⟨.done, false⟩
    ∧ (viewRun acc ⟨.nf 1, false⟩ [noteOf true false none .done, noteOf true true (some (.nf 13)) (.nf 13)]) = ⟨.done, true⟩ := by
  decide

/-- **C05, DONE only if the process exited with code 0**: with the test of `Popen._check_running` as the translator reads it
    (`Gen.doneIffExitZero`), for every return code - positive, or negative when the process was ended by a signal from
    outside (OOM killer, epilogue of the batch system, an operator) - the task is DONE iff the code is 0 -/
theorem C05_done_iff_exit_zero (code : Int) : targetOfCode Gen.doneIffExitZero code = .done ↔ code = 0 := by
  have e : Gen.doneIffExitZero = true := rfl
  rw [e]
  unfold targetOfCode
  by_cases h : code = 0
  · simp [h]
  · simp [h]

/-- a test of the sign lets a process killed by SIGKILL (-9) end DONE -/
theorem C05_done_iff_exit_zero_witness : targetOfCode false (-9) = .done ∧ targetOfCode true (-9) = .failed := by decide

end RPVerif.C05
