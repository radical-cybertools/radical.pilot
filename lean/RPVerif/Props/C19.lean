import RPVerif.Lemmas.Descr
import RPVerif.Gen.Descr

/-!
# C19 — Descriptions and payloads survive normalisation and transport
-/
namespace RPVerif.C19
open RPVerif.Descr

/-- side conditions tying the mode chain to the alias table -/
def TablesWF (cs : List ModeCheck) (as : List Alias) : Prop :=
  AliasesWF as
  ∧ (∀ a ∈ as, a.old ≠ "mode" ∧ a.new ≠ "mode" ∧ a.old ≠ "use_mpi" ∧ a.new ≠ "use_mpi" ∧ a.old ≠ "ranks")
  ∧ (∀ c ∈ cs, ∀ k ∈ c.required ++ c.banned, k ≠ "mode" ∧ k ≠ "use_mpi" ∧ ∀ a ∈ as, k ≠ a.old ∧ k ≠ a.new)

instance (cs : List ModeCheck) (as : List Alias) : Decidable (TablesWF cs as) := by
  unfold TablesWF; infer_instance

/-- **the tables found in `TaskDescription._verify` are well-formed**: every
    deprecated attribute is reset itself (to a falsy value) after its value was
    copied, no attribute is both a deprecated and a current name, the mode chain
    reads none of them.  The two lengths are those of the code today: a block
    the translator no longer finds fails here, not silently. -/
theorem tables_wf : TablesWF Gen.modeChecks Gen.aliases ∧ Gen.defaultMode ≠ ""
    ∧ Gen.aliases.length = 10 ∧ Gen.modeChecks.length = 6 := by
  decide +kernel

section
variable (cs : List ModeCheck) (as : List Alias) (dm : String)

def withMode (d : Dict) : Dict := if (d "mode").truthy then d else d.set "mode" (.str dm)

theorem withMode_other (d : Dict) (k : String) (h : k ≠ "mode") : withMode dm d k = d k := by
  unfold withMode
  split
  · rfl
  · exact set_other h

theorem withMode_of_truthy (d : Dict) (h : (d "mode").truthy = true) : withMode dm d = d := if_pos h

theorem withMode_truthy (hdm : dm ≠ "") (d : Dict) : (withMode dm d "mode").truthy = true := by
  unfold withMode
  split
  · assumption
  · rw [set_same]
    simpa [V.truthy] using hdm

theorem verify_eq (d : Dict) :
    verify cs as dm d = if modeOk (withMode dm d) cs then some (mpiStep (as.foldl applyAlias (withMode dm d)))
      else none := rfl

theorem verify_some {d d' : Dict} (h : verify cs as dm d = some d') :
    modeOk (withMode dm d) cs = true ∧ d' = mpiStep (as.foldl applyAlias (withMode dm d)) := by
  rw [verify_eq] at h
  by_cases hm : modeOk (withMode dm d) cs = true
  · rw [if_pos hm] at h
    exact ⟨hm, (Option.some.inj h).symm⟩
  · rw [if_neg hm] at h
    cases h

/-- **modes**: verification fails exactly when the mode's required attribute is
    missing (or a banned one is set) -/
theorem C19_modes (d : Dict) : verify cs as dm d = none ↔ modeOk (withMode dm d) cs = false := by
  rw [verify_eq]; split <;> simp_all

/-- **aliases**: a deprecated attribute that is set is mapped onto its
    replacement with the same value (as float where the replacement is a float),
    and is itself cleared -/
theorem C19_alias (hw : TablesWF cs as) (d d' : Dict) (h : verify cs as dm d = some d')
    (a : Alias) (ha : a ∈ as) (ht : (d a.old).truthy = true) :
    d' a.new = conv a (d a.old) ∧ (d' a.old).truthy = false := by
  obtain ⟨_, rfl⟩ := verify_some cs as dm h
  obtain ⟨hwf, hnames, _⟩ := hw
  obtain ⟨oldMode, _, oldMpi, newMpi, _⟩ := hnames a ha
  rw [mpiStep_other _ _ newMpi, mpiStep_other _ _ oldMpi, (foldl_applyAlias_pair as hwf _ a ha).1, withMode_other dm d _ oldMode,
    if_pos ht]
  exact ⟨rfl, foldl_applyAlias_old_falsy as hwf _ a ha⟩

/-- **nothing is lost**: every attribute that is neither a deprecated name, a
    replacement name, `mode` nor `use_mpi` keeps its value; a replacement keeps
    its value unless its deprecated twin was set -/
theorem C19_nothing_lost (hw : TablesWF cs as) (d d' : Dict) (h : verify cs as dm d = some d') :
    (∀ k, k ≠ "mode" → k ≠ "use_mpi" → (∀ a ∈ as, k ≠ a.old ∧ k ≠ a.new) → d' k = d k)
    ∧ (∀ a ∈ as, (d a.old).truthy = false → d' a.new = d a.new ∧ d' a.old = d a.old) := by
  obtain ⟨_, rfl⟩ := verify_some cs as dm h
  obtain ⟨hwf, hnames, _⟩ := hw
  constructor
  · intro k kMode kMpi kAlias
    rw [mpiStep_other _ _ kMpi, foldl_applyAlias_other as hwf _ k kAlias, withMode_other dm d k kMode]
  · intro a ha ht
    obtain ⟨oldMode, newMode, oldMpi, newMpi, _⟩ := hnames a ha
    obtain ⟨fnew, fold⟩ := foldl_applyAlias_pair as hwf (withMode dm d) a ha
    rw [mpiStep_other _ _ newMpi, mpiStep_other _ _ oldMpi, fnew, fold, withMode_other dm d _ oldMode,
      withMode_other dm d _ newMode, ht]
    exact ⟨rfl, rfl⟩

/-- **idempotent**: verifying a verified description changes nothing -/
theorem C19_idempotent (hw : TablesWF cs as) (hdm : dm ≠ "") (d d' : Dict)
    (h : verify cs as dm d = some d') : verify cs as dm d' = some d' := by
  obtain ⟨hok, rfl⟩ := verify_some cs as dm h
  obtain ⟨hwf, hnames, hchain⟩ := hw
  -- the second run sees the "mode" of the first, so sets no default and takes the same branch of the chain,
  -- whose attributes the first run left as they were; it finds no deprecated attribute set, and "use_mpi" done
  have hmode : mpiStep (as.foldl applyAlias (withMode dm d)) "mode" = withMode dm d "mode" := by
    rw [mpiStep_other _ _ (by simp)]
    refine foldl_applyAlias_other as hwf _ _ (fun a ha => ?_)
    obtain ⟨oldMode, newMode, _⟩ := hnames a ha
    exact ⟨oldMode.symm, newMode.symm⟩
  have hold : ∀ a ∈ as, (mpiStep (as.foldl applyAlias (withMode dm d)) a.old).truthy = false := by
    intro a ha
    obtain ⟨_, _, oldMpi, _⟩ := hnames a ha
    rw [mpiStep_other _ _ oldMpi]
    exact foldl_applyAlias_old_falsy as hwf _ a ha
  have hok' : modeOk (mpiStep (as.foldl applyAlias (withMode dm d))) cs = true := by
    rw [← hok]
    refine modeOk_congr cs _ _ hmode (fun c hc k hk => ?_)
    obtain ⟨_, kMpi, kAlias⟩ := hchain c hc k hk
    rw [mpiStep_other _ _ kMpi]
    exact foldl_applyAlias_other as hwf _ k kAlias
  have hset : (mpiStep (as.foldl applyAlias (withMode dm d)) "mode").truthy = true := by
    rw [hmode]
    exact withMode_truthy dm hdm d
  rw [verify_eq, withMode_of_truthy dm _ hset, if_pos hok', foldl_applyAlias_of_falsy as _ hold, mpiStep_idem]

end

/-- the instances for the tables found in the code -/
theorem C19_idempotent_code (d d' : Dict)
    (h : verify Gen.modeChecks Gen.aliases Gen.defaultMode d = some d') :
    verify Gen.modeChecks Gen.aliases Gen.defaultMode d' = some d' :=
  C19_idempotent _ _ _ tables_wf.1 tables_wf.2.1 d d' h

theorem C19_alias_code (d d' : Dict)
    (h : verify Gen.modeChecks Gen.aliases Gen.defaultMode d = some d')
    (a : Alias) (ha : a ∈ Gen.aliases) (ht : (d a.old).truthy = true) :
    d' a.new = conv a (d a.old) ∧ (d' a.old).truthy = false :=
  C19_alias _ _ _ tables_wf.1 d d' h a ha ht

/-- the line-protocol driver evaluates `verify` through a tabulated fold
    (`verifyFast`); on every tabulated key it returns exactly `verify`'s value -/
theorem C19_driver_sound (ks : List String) (d : Dict)
    (hold : ∀ a ∈ Gen.aliases, a.old ∈ ks) (hu : "use_mpi" ∈ ks) (hr : "ranks" ∈ ks) :
    (verifyFast Gen.modeChecks Gen.aliases Gen.defaultMode ks d).isSome
      = (verify Gen.modeChecks Gen.aliases Gen.defaultMode d).isSome
    ∧ ∀ l d', verifyFast Gen.modeChecks Gen.aliases Gen.defaultMode ks d = some l →
        verify Gen.modeChecks Gen.aliases Gen.defaultMode d = some d' → ∀ k ∈ ks, ofList l k = d' k :=
  verifyFast_agrees _ _ _ ks d hold hu hr

/-! ## slot formats -/

/-- new -> old keeps node, core and GPU indices (and lfs/mem) -/
theorem C19_slots_to_old (s : Slot) :
    (toOld s).cores.indices = s.cores.map (·.1) ∧ (toOld s).gpus.indices = s.gpus.map (·.1)
    ∧ (toOld s).nodeIndex = s.nodeIndex ∧ (toOld s).nodeName = s.nodeName
    ∧ (toOld s).lfs = s.lfs ∧ (toOld s).mem = s.mem :=
  -- `indices` flattens the one-element lists `toOld` makes
  ⟨List.map_eq_flatMap.symm, List.map_eq_flatMap.symm, rfl, rfl, rfl, rfl⟩

theorem resToNew_indices (r : OldRes) (l : List (Nat × Nat)) (h : resToNew r = some l) : l.map (·.1) = r.indices := by
  cases r with
  | ints x => cases h; exact List.map_map.trans (List.map_id _)
  | pairs x => cases h; rfl
  | lists x =>
    cases x with
    | nil => cases h; rfl
    | cons y ys => cases h

/-- old -> new keeps node, core and GPU indices whenever it produces a slot -/
theorem C19_slots_to_new (o : OldSlot) (s : Slot) (h : toNew o = some s) :
    s.cores.map (·.1) = o.cores.indices ∧ s.gpus.map (·.1) = o.gpus.indices
    ∧ s.nodeIndex = o.nodeIndex ∧ s.nodeName = o.nodeName := by
  unfold toNew at h
  split at h
  · next c g hc hg =>
    cases h
    exact ⟨resToNew_indices _ _ hc, resToNew_indices _ _ hg, rfl, rfl⟩
  · cases h

theorem resToNew_total (r : OldRes) (h : ∀ l, r ≠ .lists l) : ∃ l, resToNew r = some l := by
  cases r with
  | ints l => exact ⟨_, rfl⟩
  | pairs l => exact ⟨_, rfl⟩
  | lists l => exact absurd rfl (h l)

/-- integer and (index, occupation) forms are always accepted -/
theorem C19_slots_to_new_total (o : OldSlot)
    (hc : ∀ l, o.cores ≠ .lists l) (hg : ∀ l, o.gpus ≠ .lists l) : ∃ s, toNew o = some s := by
  obtain ⟨c, hc⟩ := resToNew_total o.cores hc
  obtain ⟨g, hg⟩ := resToNew_total o.gpus hg
  rw [toNew, hc, hg]
  exact ⟨_, rfl⟩

/-- **a slot survives the plain-dictionary form**: re-creating a `Slot` from what `as_dict()` gives
    (cores and GPUs as dicts) yields the same cores, GPUs (indices and occupations), storage, memory
    and node -/
theorem C19_slot_dict_roundtrip (s : Slot) :
    slotInit (.dicts s.cores) (.dicts s.gpus) s.lfs s.mem s.nodeIndex s.nodeName = s := by
  cases s; rfl

/-- bare indices stand for whole cores / GPUs; cores and GPUs are treated separately -/
theorem C19_slot_init_ints (cs gs : List Nat) (lfs mem ni : Nat) (nn : String) :
    (slotInit (.ints cs) (.ints gs) lfs mem ni nn).cores = cs.map (fun i => (i, 16))
    ∧ (slotInit (.ints cs) (.ints gs) lfs mem ni nn).gpus = gs.map (fun i => (i, 16)) := ⟨rfl, rfl⟩

theorem toNewList_eq_some (os : List OldSlot) (ss : List Slot) : toNewList os = some ss → os.map toNew = ss.map some := by
  fun_induction toNewList os generalizing ss with
  | case1 => intro h; cases h; rfl
  | case2 o os s rest hos ho ih =>
    intro h
    cases h
    rw [List.map_cons, List.map_cons, ho, ih rest hos]
  | case3 => exact fun h => nomatch h

/-- **slots of a list are converted independently**: position `i` of the result is what slot `i`
    converts to on its own - nothing is carried over from one slot to the next -/
theorem C19_slots_list (os : List OldSlot) (ss : List Slot) (h : toNewList os = some ss) :
    ss.length = os.length ∧ ∀ (i : Nat), (ss[i]?).map some = (os[i]?).map toNew := by
  have e := toNewList_eq_some os ss h
  constructor
  · rw [← List.length_map (f := some), ← e, List.length_map]
  · intro i
    rw [← List.getElem?_map, ← List.getElem?_map, e]

/-- FULL round trip `toNew (toOld s) = some s'` with the same indices is FALSE on
    the current code for every slot that holds a core or a GPU (known finding
    F-C19-slots-roundtrip): `convert_slots_to_new` cannot read the per-rank
    index lists `convert_slots_to_old` writes.  Witness: -/
theorem C19_roundtrip_witness :
    toNew (toOld { cores := [(1, 16)], gpus := [], lfs := 0, mem := 0, nodeIndex := 0, nodeName := "n" }) = none := by
  decide

/-- partial: the round trip is the identity on slots without cores and GPUs -/
theorem C19_roundtrip_partial (s : Slot) (hc : s.cores = []) (hg : s.gpus = []) :
    toNew (toOld s) = some s := by
  cases s; simp_all [toOld, toNew, resToNew]

/-! ## function transport: composition order of RP's own encoding
    (`serialize_bson {func: serialize_obj f, args, kwargs}`), with the
    third-party codecs as hypotheses -/
theorem C19_transport {F A B S : Type} (serObj : F → B) (deserObj : B → Option F)
    (serBson : (B × A) → S) (deserBson : S → Option (B × A))
    (h1 : ∀ f, deserObj (serObj f) = some f) (h2 : ∀ x, deserBson (serBson x) = some x)
    (f : F) (a : A) :
    (deserBson (serBson (serObj f, a))).bind (fun p => (deserObj p.1).map (fun g => (g, p.2))) = some (f, a) := by
  rw [h2]; simp [h1]

example : (verify Gen.modeChecks Gen.aliases Gen.defaultMode
    (fun k => if k = "executable" then .str "/bin/date" else if k = "worker_class" then .str "Foo"
              else if k = "gpu_processes" then .int 2 else if k = "ranks" then .int 1 else
              match Gen.descrDefaults.find? (·.1 = k) with | some p => p.2 | none => .str "")).map
      (fun d => (d "raptor_class", d "worker_class", d "gpus_per_rank", d "gpu_processes", d "use_mpi", d "mode"))
    = some (.str "Foo", .str "", .flt 32, .int 0, .bool false, .str "task.executable") := by
  decide +kernel

end RPVerif.C19
