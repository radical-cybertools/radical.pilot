import RPVerif.Lemmas.NodeList
import RPVerif.Lemmas.SchedRun
import RPVerif.Lemmas.JsrunSched
import RPVerif.Gen.NodeList

/-!
# C01 — Pilot resources are never oversubscribed

The agent scheduler (`Continuous._find_resources`, `schedule_task`, `_change_slot_states`; the model is tied
to the real scheduling loop by the correspondence suite): every grant fits its node and what is marked BUSY is
not granted again, for all node states and requests; `C01_history` lifts this to whole histories of the loop
for placements made by the scheduler (placements supplied by the application are outside it:
`C01_app_slots_witness`, finding F3).  Then the same property for the application-level slot finder
(`pilot.nodelist`), also under threads, and for the JSRUN flavour of the scheduler.
-/
namespace RPVerif.C01
open RPVerif.Sched List

/-- **every grant fits the node it is taken from**: the slots returned by the model of `_find_resources` name only
    FREE cores, pairwise distinct over all slots; every GPU named exists, is not blocked, and the shares handed out
    on it (with what the node map already shows) sum to at most one GPU; the storage and memory of all slots
    together fit what the node has left. -/
theorem C01_grant_fits_node (n : NodeSt) (nSlots cps gpr lfs mem : Nat) (p : Bool) (slots : List Slot)
    (hcps : 0 < cps) (hl : lfs ≠ 0 → (0 : Int) ≤ n.lfs) (hm : mem ≠ 0 → (0 : Int) ≤ n.mem)
    (h : findResources n nSlots cps gpr lfs mem p = .ok (some slots)) :
    NodeFit n cps gpr lfs mem slots :=
  (findResources_fit hcps hl hm h).1

/-- no core is handed out twice within one grant -/
theorem C01_cores_distinct {n : NodeSt} {cps gpr lfs mem : Nat} {slots : List Slot}
    (h : NodeFit n cps gpr lfs mem slots) : (allCores slots).Nodup :=
  h.cores_inc.imp Nat.ne_of_lt

/-- blocked (DOWN) and busy cores are never part of a grant -/
theorem C01_no_blocked_core {n : NodeSt} {cps gpr lfs mem : Nat} {slots : List Slot}
    (h : NodeFit n cps gpr lfs mem slots) (c : Nat) (hc : c ∈ allCores slots) :
    n.cores[c]? ≠ some Occ.down ∧ n.cores[c]? ≠ some Occ.busy := by
  rw [h.cores_free c hc]; simp

/-- the shares a grant puts on one GPU never exceed what is left of it, and a
    blocked GPU is never used -/
theorem C01_gpu_share_bound {n : NodeSt} {cps gpr lfs mem : Nat} {slots : List Slot}
    (h : NodeFit n cps gpr lfs mem slots) (g : Nat) (hg : 0 < shareOf (allGpus slots) g) :
    shareOf (allGpus slots) g ≤ 16 ∧ n.gpus[g]? ≠ some Occ.down ∧ n.gpus[g]? ≠ none := by
  obtain ⟨o, ho, hup, hroom⟩ := h.gpus_fit g hg
  refine ⟨Nat.le_trans (Nat.le_add_right _ _) hroom, ?_, by rw [ho]; simp⟩
  rw [ho]
  exact fun e => hup (Option.some.inj e)

/-- **what is marked busy cannot be granted again**: after `_change_slot_states`
    marked a slot BUSY on a node, no later search on that node returns any of
    its cores (while it is held) -/
theorem C01_held_not_regranted (n : NodeSt) (sl : Slot) (nSlots cps gpr lfs mem : Nat) (p : Bool)
    (slots : List Slot) (hcps : 0 < cps)
    (hl : lfs ≠ 0 → (0 : Int) ≤ (applySlot n sl true).lfs) (hm : mem ≠ 0 → (0 : Int) ≤ (applySlot n sl true).mem)
    (h : findResources (applySlot n sl true) nSlots cps gpr lfs mem p = .ok (some slots)) :
    ∀ c ∈ allCores slots, c ∉ sl.cores := by
  intro c hc hin
  have hfree := (findResources_fit hcps hl hm h).1.cores_free c hc
  -- a core of `sl` reads BUSY after the marking (if it exists), so the search did not return it
  rw [applySlot_cores, foldSet_get, if_pos hin] at hfree
  obtain ⟨_, _, hbusy⟩ := Option.map_eq_some_iff.mp hfree
  cases hbusy

/-- FULL statement (all histories, placements chosen by the scheduler OR supplied
    by the application) is FALSE on the current code: an application-supplied
    placement is passed on without being marked busy (recorded finding F3).
    Witness on the faithful model: task 0 is placed by the application on core 0
    of the only node, task 1 is then scheduled onto the same core. -/
theorem C01_app_slots_witness :
    (runLoop { cpn := 1, gpn := 0, lfsPn := 0, memPn := 0 }
        { nodes := [{ index := 0, cores := [.free], gpus := [], lfs := 0, mem := 0 }] } true
        [{ incoming := [.sched [{ uid := 0, ranks := 1, cpr := 1, gpr := 0, lfs := 0, mem := 0,
                                   app := some [{ node := 0, cores := [0], gpus := [], lfs := 0, mem := 0 }] },
                                 { uid := 1, ranks := 1, cpr := 1, gpr := 0, lfs := 0, mem := 0 }]] }] []).1.given
      = [(0, [{ node := 0, cores := [0], gpus := [], lfs := 0, mem := 0 }]),
         (1, [{ node := 0, cores := [0], gpus := [], lfs := 0, mem := 0 }])] := by
  decide

/-! non-vacuity (test): two slots of two cores and 10/16 GPU are asked for; the DOWN and the BUSY core and the DOWN GPU
    are passed over, and the one FREE core left does not make a second slot -/
example : findResources { index := 3, cores := [.free, .down, .busy, .free, .free], gpus := [.down, .free, .free],
                          lfs := 10, mem := 0 } 2 2 10 4 0 true
    = .ok (some [{ node := 3, cores := [0, 3], gpus := [(1, 10)], lfs := 4, mem := 0 }]) := by rfl

/-! ## placements over several nodes -/

/-- **a whole placement is placeable**: whatever the node map, the request, the starting node and
    the scattered / continuous mode, the slots `schedule_task`'s node loop collects name, on every
    node, pairwise distinct FREE cores of the current map (the loop visits every node at most once) -/
theorem C01_placement_placeable (c : Cfg) (nodes : List NodeSt) (r : Req) (cps spn req : Nat) (mpi : Bool)
    (colo : Option (List Nat)) (skip : List Nat) (hw : NodesWF nodes) (hnn : NonNeg nodes) (hcps : 0 < cps)
    (o0 : Nat) (it' : IterSt)
    (h : nodeLoop c nodes r cps spn req mpi colo skip nodes.length { rem := req, offset := o0 % nodes.length } = .ok it') :
    Placeable nodes it'.alc :=
  nodeLoop_run_placeable c nodes r cps spn req mpi colo skip hw hnn hcps (o0 % nodes.length) it' h

/-! ## the application-level slot finder (`pilot.nodelist`) -/

open RPVerif.NodeList in
/-- **for every history of `find_slots` / `release_slots` calls** - whatever is requested, whatever
    is released and in whatever order, failed requests included - no core and no GPU of any node is
    ever occupied beyond one whole -/
theorem C01_nodelist_bound (l : NL) (ops : List (Sum (RR × Nat) (List ASlot))) (h : AllBound l.nodes) :
    AllBound (ops.foldl (fun l op => match op with
                                     | .inl (rr, n) => (findSlots l rr n).2
                                     | .inr slots   => releaseSlots l slots) l).nodes :=
  List.foldlRecOn (motive := fun l : NL => AllBound l.nodes) ops _ h fun l h op _ => by
    cases op with
    | inl p => exact findSlots_bound l p.1 p.2 h
    | inr slots => exact releaseSlots_bound l slots h

open RPVerif.NodeList in
/-- **any number of application threads on one node**, finding and releasing slots, interleaved in any way: with the
    code as it is (`Gen.findSlotBooksInLock`: `Node.find_slot` searches and books inside one section of the node's
    lock; `Gen.deallocInLock`: `deallocate_slot` is one section of it, so a release is one step) no core
    and no GPU is ever booked beyond one whole, and threads and node end up as if the calls had been made one after
    the other -/
theorem C01_node_threads (n : ANode) (steps : List CStep) (h : OccBound n) :
    OccBound (crun Gen.findSlotBooksInLock Gen.deallocInLock ⟨n, [], [], []⟩ steps).node
    ∧ (crun Gen.findSlotBooksInLock Gen.deallocInLock ⟨n, [], [], []⟩ steps).node = (seqCalls n steps).1
    ∧ (crun Gen.findSlotBooksInLock Gen.deallocInLock ⟨n, [], [], []⟩ steps).got = (seqCalls n steps).2 := by
  -- the two flags, generated from the code, are `true` by definition
  have hrun : crun Gen.findSlotBooksInLock Gen.deallocInLock ⟨n, [], [], []⟩ steps
      = ⟨(seqCalls n steps).1, [], [], [] ++ (seqCalls n steps).2⟩ := crun_atomic steps n []
  rw [hrun]
  exact ⟨seqCalls_bound steps n h, rfl, nil_append _⟩

open RPVerif.NodeList in
/-- the lock sections matter: with the booking outside two threads that search before either books are both given
    core 0 and the node shows it booked twice; with the release outside, a release that read the node before another
    thread's grant writes its stale figures back - the grant (100 of lfs) vanishes from the node's books -/
theorem C01_node_threads_witness :
    (crun false true ⟨⟨0, [some 0, some 0], [], 0, 0⟩, [], [], []⟩
       [.call 0 ⟨1, 16, 0, 16, 0, 0⟩, .call 1 ⟨1, 16, 0, 16, 0, 0⟩, .book 0, .book 1]).node.cores = [some 32, some 0]
    ∧ (crun true true ⟨⟨0, [some 0, some 0], [], 0, 0⟩, [], [], []⟩
       [.call 0 ⟨1, 16, 0, 16, 0, 0⟩, .call 1 ⟨1, 16, 0, 16, 0, 0⟩, .book 0, .book 1]).node.cores = [some 16, some 16]
    ∧ (crun true false ⟨⟨0, [some 16, some 0], [], 900, 0⟩, [], [], []⟩
       [.release 0 ⟨0, [(0, 16)], [], 100, 0⟩, .call 1 ⟨1, 16, 0, 16, 100, 0⟩, .write 0]).node.lfs = 1000
    ∧ (crun true true ⟨⟨0, [some 16, some 0], [], 900, 0⟩, [], [], []⟩
       [.release 0 ⟨0, [(0, 16)], [], 100, 0⟩, .call 1 ⟨1, 16, 0, 16, 100, 0⟩, .write 0]).node.lfs = 900 := by
  decide

open RPVerif.NodeList in
/-- a slot `Node.find_slot` hands out names pairwise distinct cores (GPUs) that are not DOWN and had
    room for the requested occupation -/
theorem C01_nodelist_slot_fits (n n' : ANode) (rr : RR) (s : ASlot) (h : findSlot n rr = some (s, n')) :
    ((s.cores.map (·.1)).Pairwise (· < ·)) ∧ (∀ e ∈ s.cores, ∃ v, n.cores[e.1]? = some (some v) ∧ (e.2 : Int) ≤ 16 - v)
    ∧ ((s.gpus.map (·.1)).Pairwise (· < ·)) ∧ (∀ e ∈ s.gpus, ∃ v, n.gpus[e.1]? = some (some v) ∧ (e.2 : Int) ≤ 16 - v) := by
  obtain ⟨rfl, _⟩ := findSlot_spec h
  rw [mkSlot_eq]
  exact ⟨scan_pairwise .., (roomFor_iff ..).mp (scan_roomFor ..), scan_pairwise .., (roomFor_iff ..).mp (scan_roomFor ..)⟩

open RPVerif.NodeList in
inductive NOp where
  | find (rr : RR) (n : Nat)              -- `find_slots`
  | release (slots : List ASlot)          -- `release_slots`
  | app (pos : Nat) (slot : ASlot)        -- a slot of the application's own making: `nodes[pos].allocate_slot(slot)`

open RPVerif.NodeList in
def nstep (l : NL) : NOp → NL
  | .find rr n      => (findSlots l rr n).2
  | .release slots  => releaseSlots l slots
  | .app pos slot   => match allocApp l pos slot with
                       | some l' => l'
                       | none    => l            -- refused

open RPVerif.NodeList in
/-- **placements supplied by the application included**: for every history of `find_slots`,
    `release_slots` and `allocate_slot` calls with slots of the application's own making (each naming a
    core or GPU at most once), accepted or refused, no core and no GPU of any node is ever occupied beyond
    one whole -/
theorem C01_nodelist_bound_app (l : NL) (ops : List NOp) (h : AllBound l.nodes)
    (hw : ∀ op ∈ ops, ∀ pos s, op = NOp.app pos s → slotWF s = true) :
    AllBound (ops.foldl nstep l).nodes :=
  List.foldlRecOn (motive := fun l : NL => AllBound l.nodes) ops _ h fun l h op hop => by
    cases op with
    | find rr n => exact findSlots_bound l rr n h
    | release slots => exact releaseSlots_bound l slots h
    | app pos s =>
      simp only [nstep]
      cases ha : allocApp l pos s with
      | none => exact h
      | some l' => exact allocApp_bound (hw _ hop pos s rfl) h ha

open RPVerif.NodeList in
/-- the checks are not vacuous: a slot naming a GPU that is held is refused, one naming a free GPU is taken -/
example :
    let n : ANode := { index := 0, cores := [some 0, some 16], gpus := [some 16, some 0], lfs := 0, mem := 0 }
    allocChecked n { node := 0, cores := [(0, 16)], gpus := [(0, 16)], lfs := 0, mem := 0 } = none
    ∧ (allocChecked n { node := 0, cores := [(0, 16)], gpus := [(1, 16)], lfs := 0, mem := 0 }).isSome = true := by
  decide

/-! ## whole histories of the scheduling loop -/

/-- **C01 over every history of the scheduling loop** (placements made by the scheduler): for every
    node layout (unique node indices, blocked cores / GPUs, non-negative storage and memory), every
    script of loop iterations - arrivals, priorities, colocate / exclusive tags, named environments,
    cancellations, completions in any order and at any time - whose release messages name placements
    that are held (`RunOK`), after the run
    * no core is held by two placements, no GPU is held by two placements,
    * every core / GPU named by a held placement was FREE in the initial map (blocked ones are never
      handed out),
    * storage and memory held on a node never exceed what the node has (what is left is ≥ 0 and is
      the initial amount minus what is held). -/
theorem C01_history (c : Cfg) (nodes0 : List NodeSt) (its : List Iter) (hw : NodesWF nodes0) (hnn : NonNeg nodes0)
    (hok : RunOK c { nodes := nodes0 } true its) :
    (((runLoop c { nodes := nodes0 } true its []).1.held).Pairwise
        (fun a b => ∀ idx, ∀ x ∈ coresOn a.2 idx, x ∉ coresOn b.2 idx))
    ∧ GDisj (runLoop c { nodes := nodes0 } true its []).1.held
    ∧ (∀ n0 ∈ nodes0, (∀ x ∈ coresOn (heldSlots (runLoop c { nodes := nodes0 } true its []).1.held) n0.index,
                          n0.cores[x]? = some Occ.free)
                     ∧ (∀ g ∈ gpusOn (heldSlots (runLoop c { nodes := nodes0 } true its []).1.held) n0.index,
                          n0.gpus[g]? = some Occ.free)
                     ∧ ((lfsOn (heldSlots (runLoop c { nodes := nodes0 } true its []).1.held) n0.index : Nat) : Int) ≤ n0.lfs
                     ∧ ((memOn (heldSlots (runLoop c { nodes := nodes0 } true its []).1.held) n0.index : Nat) : Int) ≤ n0.mem) := by
  have hI := (runLoop_sinv c nodes0 its hw hnn hok).1
  refine ⟨hinv_cdisj nodes0 _ _ hI, hI.gdisj, fun n0 hn0 => ?_⟩
  obtain ⟨n, _, hn⟩ := hinv_mem0 nodes0 _ _ hI n0 hn0
  obtain ⟨_, _, mc, mg, tl, tm⟩ := (nodeinv_iff n0 n _).mp hn
  exact ⟨mc.2, mg.2, taken_le tl, taken_le tm⟩

/-! non-vacuity (tests): a script that places two tasks, releases one, places a third on the freed
    cores and releases everything meets `RunOK`; in between placements are held -/
example :
    RunOK { cpn := 2, gpn := 0, lfsPn := 0, memPn := 0 }
      { nodes := [{ index := 0, cores := [.free, .free], gpus := [], lfs := 0, mem := 0 }] } true
      [{ incoming := [.sched [{ uid := 1, ranks := 1, cpr := 1, gpr := 0, lfs := 0, mem := 0 },
                              { uid := 2, ranks := 1, cpr := 1, gpr := 0, lfs := 0, mem := 0 }]] },
       { incoming := [.sched [{ uid := 3, ranks := 1, cpr := 1, gpr := 0, lfs := 0, mem := 0 }]], unsched := [[1]] },
       { unsched := [[2]] }, { unsched := [[3]] }] := by
  unfold RunOK; decide

example :
    ((runLoop { cpn := 2, gpn := 0, lfsPn := 0, memPn := 0 }
      { nodes := [{ index := 0, cores := [.free, .free], gpus := [], lfs := 0, mem := 0 }] } true
      [{ incoming := [.sched [{ uid := 1, ranks := 1, cpr := 1, gpr := 0, lfs := 0, mem := 0 },
                              { uid := 2, ranks := 1, cpr := 1, gpr := 0, lfs := 0, mem := 0 }]] }] []).1.held.map (·.1)) = [1, 2] := by
  decide

/-! ## the JSRUN flavour of the scheduler (`continuous_jsrun.py`)

`ContinuousJsrun` hands out whole cores and whole GPUs in *resource sets*: the ranks of one set share the
GPUs of that set.  `jrun` is every history of `_try_allocation` and releases (`JOp`), `keysBy coreF` /
`keysBy gpuF` are the (node, core) and (node, GPU) pairs held by the tasks that were granted a placement
and have not released it (`keyF .core` and `keyF .gpu` of the lemmas unfold to `coreF` and `gpuF`). -/

open RPVerif.JsrunSched in
/-- **no core and no GPU is held twice**, at every moment of every history of arrivals and releases over
    any node list with distinct node indices -/
theorem C01_jsrun_disjoint (cfg : JCfg) (nodes : List Sched.NodeSt) (ops : List JOp)
    (hidx : (nodes.map (·.index)).Nodup) :
    (keysBy coreF (jrun cfg { nodes := nodes } ops).held).Nodup ∧
    (keysBy gpuF (jrun cfg { nodes := nodes } ops).held).Nodup :=
  have h := jrun_inv cfg _ ops (init_inv nodes hidx)
  ⟨inv_held_nodup h .core, inv_held_nodup h .gpu⟩

open RPVerif.JsrunSched in
/-- what is held is marked BUSY in the node map the next placement is searched in (so it is not offered
    again: `_find_resources` only takes FREE entries, `findJ_spec`) -/
theorem C01_jsrun_held_busy (cfg : JCfg) (nodes : List Sched.NodeSt) (ops : List JOp)
    (hidx : (nodes.map (·.index)).Nodup) :
    (∀ k ∈ keysBy coreF (jrun cfg { nodes := nodes } ops).held,
        ∃ n, nodeAt (jrun cfg { nodes := nodes } ops).nodes k.1 = some n ∧ n.cores[k.2]? = some .busy) ∧
    (∀ k ∈ keysBy gpuF (jrun cfg { nodes := nodes } ops).held,
        ∃ n, nodeAt (jrun cfg { nodes := nodes } ops).nodes k.1 = some n ∧ n.gpus[k.2]? = some .busy) :=
  have h := jrun_inv cfg _ ops (init_inv nodes hidx)
  ⟨inv_held_busy h .core, inv_held_busy h .gpu⟩

open RPVerif.JsrunSched in
/-- **blocked cores and GPUs are never handed out**: whatever is held at any moment is not marked
    unusable (DOWN) in the node list the pilot started with -/
theorem C01_jsrun_blocked_never (cfg : JCfg) (nodes : List Sched.NodeSt) (ops : List JOp)
    (hidx : (nodes.map (·.index)).Nodup) :
    (∀ k ∈ keysBy coreF (jrun cfg { nodes := nodes } ops).held, ∀ n0, nodeAt nodes k.1 = some n0 →
        n0.cores[k.2]? ≠ some .down) ∧
    (∀ k ∈ keysBy gpuF (jrun cfg { nodes := nodes } ops).held, ∀ n0, nodeAt nodes k.1 = some n0 →
        n0.gpus[k.2]? ≠ some .down) :=
  have h := jrun_inv cfg _ ops (init_inv nodes hidx)
  ⟨inv_held_not_down h .core, inv_held_not_down h .gpu⟩

open RPVerif.JsrunSched in
/-- **the shares held on the GPUs of a resource set sum to at most those GPUs**: however a request with
    `ranks` ranks of `gpr`/16 GPU each is cut into resource sets, the ranks of one set together ask for no
    more than the whole GPUs the set owns, and the sets together place every rank -/
theorem C01_jsrun_shares (ranks cpr gpr lfs mem : Nat) (hr : 0 < ranks) :
    (shape ranks cpr gpr lfs mem).ranksPerSlot * gpr ≤ (shape ranks cpr gpr lfs mem).gpusPerSlot * 16 ∧
    (shape ranks cpr gpr lfs mem).reqSlots * (shape ranks cpr gpr lfs mem).ranksPerSlot = ranks := by
  by_cases hg : gpr % 16 = 0
  · exact shape_whole ranks cpr gpr lfs mem hg
  · exact shape_frac ranks cpr gpr lfs mem hr hg

open RPVerif.JsrunSched in
/-- what `_find_resources` takes from a node fits the node -/
theorem C01_jsrun_find (n : Sched.NodeSt) (nSlots rps cps gps lfs mem : Nat) (part : Bool) (sl : List RSlot)
    (h : findJ n nSlots rps cps gps lfs mem part = .ok (some sl)) :
    (coresOf sl).Nodup ∧ (∀ c ∈ coresOf sl, n.cores[c]? = some .free) ∧
    (gpusOf sl).Nodup ∧ (∀ g ∈ gpusOf sl, n.gpus[g]? = some .free) ∧
    sl.length * lfs ≤ n.lfs.toNat ∧ sl.length * mem ≤ n.mem.toNat := by
  have hspec := findJ_spec n nSlots rps cps gps lfs mem part
  rw [h] at hspec
  obtain ⟨_, hs, hfit⟩ := hspec
  -- every set asks `lfs` and `mem`, so the sums `FitsNode` bounds are `sl.length * lfs` and `sl.length * mem`
  have hl := hfit.lfs
  have hm := hfit.mem
  rw [sum_map_const _ lfs sl (fun s hs' => (hs s hs').2.1)] at hl
  rw [sum_map_const _ mem sl (fun s hs' => (hs s hs').2.2)] at hm
  exact ⟨hfit.nodup .core, hfit.free .core, hfit.nodup .gpu, hfit.free .gpu, hl, hm⟩

open RPVerif.JsrunSched in
/-- **node-local storage and memory are never overdrawn**: every placement takes from each node no more
    lfs and memory than the node has left at that moment (`schedule_fitsMap`), a release gives back what
    the placement took (`markAll_eq`) - so over every history the free amounts of every node stay ≥ 0 -/
theorem C01_jsrun_lfs_mem (cfg : JCfg) (nodes : List Sched.NodeSt) (ops : List JOp)
    (hidx : (nodes.map (·.index)).Nodup) (h0 : ∀ n ∈ nodes, 0 ≤ n.lfs ∧ 0 ≤ n.mem) :
    ∀ n ∈ (jrun cfg { nodes := nodes } ops).nodes, 0 ≤ n.lfs ∧ 0 ≤ n.mem :=
  inv_nonneg (jrun_inv cfg _ ops (init_inv nodes hidx)) h0

open RPVerif.JsrunSched in
/-- `_find_resources` of the JSRUN scheduler never raises: the loops that pick free cores and GPUs do not run
    off the node, because the number of sets dug out is bounded by what the node has free -/
theorem C01_jsrun_find_total (n : Sched.NodeSt) (nSlots rps cps gps lfs mem : Nat) (part : Bool) :
    ∃ r, findJ n nSlots rps cps gps lfs mem part = .ok r := by
  have h := findJ_spec n nSlots rps cps gps lfs mem part
  cases hf : findJ n nSlots rps cps gps lfs mem part with
  | error e => exact (hf ▸ h).elim
  | ok r => exact ⟨r, rfl⟩

/-- tests: 5 ranks of half a GPU are cut into one set of 5 ranks owning 3 GPUs; 4 ranks of a quarter GPU
    into one set owning one GPU -/
example : JsrunSched.shape 5 1 8 0 0 = ⟨1, 5, 5, 3, 0, 0⟩ ∧ JsrunSched.shape 4 1 4 0 0 = ⟨1, 4, 4, 1, 0, 0⟩ := by decide

end RPVerif.C01
