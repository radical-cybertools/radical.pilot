import RPVerif.Model.Sizing
import RPVerif.Gen.Configs
import RPVerif.Gen.Factories
import RPVerif.Gen.Exec

/-!
# C17 — Every shipped platform resolves and pilots are sized to fit
-/
namespace RPVerif.C17
open RPVerif.Sizing

/-! ## (a) resolution: a finite table regenerated from the JSON files and the
factories on every run; `decide +kernel` over the whole table is a proof. -/

def names (f : List (String × String × Bool)) : List String :=
  (f.filter (fun e => e.2.2)).map (·.1)

/-- everything `Session.get_resource_config` + the agent factories need from a row -/
def rowOk (r : Gen.ConfigRow) : Bool :=
  r.schemaOk
  && (r.rm ∈ names Gen.rmFactory)
  && (r.scheduler ∈ names Gen.schedulerFactory)
  && (r.spawner ∈ names Gen.spawnerFactory)
  && (r.agentConfig ∈ Gen.agentConfigs)
  && !r.lms.isEmpty
  && r.lms.all (fun l => l ∈ names Gen.lmFactory)
  && r.order.all (fun l => l ∈ r.lms)
  && (r.defaultSchema ∈ r.schemas)
  && (r.schema ∈ r.schemas)
  && (r.jobEndpoint ≠ "") && (r.fsEndpoint ≠ "")
  && r.blockedCores.all (fun i => i < r.cpn * r.smt)
  && r.blockedGpus.all (fun i => i < r.gpn)
  && (r.blockedCores.length < r.cpn * r.smt || r.cpn == 0)
  && (r.smt ≥ 1)

/-- **every shipped platform, under each of its access schemas, resolves** to a
    resource manager, launch methods, agent scheduler, executor and agent
    configuration that exist in the code base -/
theorem C17_resolves : ∀ r ∈ Gen.configRows, rowOk r = true := by
  decide +kernel

/-- every name a factory accepts (task-manager schedulers included) maps to a class that exists in its module -/
theorem factories_exist :
    (Gen.rmFactory ++ Gen.lmFactory ++ Gen.schedulerFactory ++ Gen.spawnerFactory
      ++ Gen.tmgrSchedFactory).all (fun e => e.2.2) = true := by
  decide +kernel

/-- non-vacuity of `C17_resolves` (a loose bound: the code ships 120 rows) -/
theorem table_nonempty : Gen.configRows.length ≥ 100 := by decide +kernel

/-! ## (b) sizing -/

theorem ceilDiv_le_iff (a n : Nat) {b : Nat} (hb : 0 < b) : ceilDiv a b ≤ n ↔ a ≤ n * b := by
  unfold ceilDiv
  rw [Nat.div_le_iff_le_mul hb]
  omega

theorem orElse_of_ne {x : Nat} (y : Nat) (h : x ≠ 0) : orElse x y = x := if_pos h

theorem avail_eq_some {c b : Nat} {fits : Prop} [Decidable fits] (a : Nat) :
    (if c ≠ 0 ∧ b ≠ 0 then (if fits then some (c - b) else none) else some c) = some a
      ↔ a = c - b ∧ (c ≠ 0 → b ≠ 0 → fits) := by
  by_cases hc : c = 0
  · subst hc
    simp [eq_comm]
  · by_cases hb : b = 0
    · subst hb
      simp [eq_comm]
    · by_cases hf : fits <;> simp [hc, hb, hf, eq_comm]

theorem availCores_eq_some (rc : RC) (ac : Nat) :
    availCores rc = some ac ↔ ac = coresPerNode rc - rc.blockedCores
      ∧ (coresPerNode rc ≠ 0 → rc.blockedCores ≠ 0 → rc.blockedCores < coresPerNode rc) :=
  avail_eq_some ac

theorem availGpus_eq_some (rc : RC) (ag : Nat) :
    availGpus rc = some ag ↔ ag = rc.gpn - rc.blockedGpus
      ∧ (rc.gpn ≠ 0 → rc.blockedGpus ≠ 0 → rc.blockedGpus ≤ rc.gpn) :=
  avail_eq_some ag

def sized (rc : RC) (pd : PD) (ac ag n : Nat) : Sizing :=
  { nodeCount := n + pd.backup,
    totalCpu  := orElse ((n + pd.backup) * ac) pd.cores,
    totalGpu  := orElse ((n + pd.backup) * ag) pd.gpus,
    procsPerHost := ac,
    agentNodes := n, agentBackup := pd.backup,
    agentCores := orElse ((n + pd.backup) * ac) pd.cores,
    agentGpus  := orElse ((n + pd.backup) * ag) pd.gpus,
    agentCoresPerNode := coresPerNode rc,
    agentGpusPerNode  := rc.gpn }

theorem sizePilot_eq (rc : RC) (pd : PD) {ac ag : Nat} (hac : availCores rc = some ac) (hag : availGpus rc = some ag) :
    sizePilot rc pd = (reqNodes pd ac ag).map (sized rc pd ac ag) := by
  unfold sizePilot
  rw [hac, hag]
  dsimp only
  cases reqNodes pd ac ag <;> rfl

theorem sizePilot_ok {rc : RC} {pd : PD} {sz : Sizing} (hs : sizePilot rc pd = .ok sz) :
    ∃ ac ag n, availCores rc = some ac ∧ availGpus rc = some ag ∧ reqNodes pd ac ag = .ok n
      ∧ sz = sized rc pd ac ag n := by
  unfold sizePilot at hs
  split at hs
  · cases hs
  · cases hs
  · next ac ag hac hag =>
    split at hs
    · cases hs
    · next n hr =>
      cases hs
      exact ⟨ac, ag, n, hac, hag, hr, rfl⟩

theorem reqNodes_le_iff (pd : PD) (hn : pd.nodes = 0) {ac ag n : Nat} (hpos : 0 < ac)
    (h : reqNodes pd ac ag = .ok n) (m : Nat) : n ≤ m ↔ pd.cores ≤ m * ac ∧ (0 < ag → pd.gpus ≤ m * ag) := by
  rw [reqNodes, if_neg (not_not_intro hn), if_pos (Nat.ne_of_gt hpos)] at h
  cases h
  rw [Nat.max_le, ceilDiv_le_iff _ _ hpos, and_comm]
  refine and_congr_right fun _ => ?_
  by_cases hg : 0 < ag
  · rw [if_pos (Nat.ne_of_gt hg), ceilDiv_le_iff _ _ hg]
    exact ⟨fun h _ => h, fun h => h hg⟩
  · rw [if_neg (fun h => hg (Nat.pos_of_ne_zero h))]
    exact ⟨fun _ h => absurd h hg, fun _ => Nat.zero_le _⟩

/-- **smallest number of whole nodes**: when the pilot is sized by cores/GPUs
    and the node size is known, the job asks for `n` nodes (plus backup) where
    `n` nodes cover the requested cores and GPUs and no smaller number does -/
theorem C17_least (rc : RC) (pd : PD) (sz : Sizing) (ac ag : Nat)
    (hn : pd.nodes = 0) (hac : availCores rc = some ac) (hag : availGpus rc = some ag)
    (hpos : 0 < ac) (hs : sizePilot rc pd = .ok sz) :
    sz.nodeCount = sz.agentNodes + pd.backup
    ∧ sz.agentNodes * ac ≥ pd.cores
    ∧ (0 < ag → sz.agentNodes * ag ≥ pd.gpus)
    ∧ ∀ m, m < sz.agentNodes → ¬ (m * ac ≥ pd.cores ∧ (0 < ag → m * ag ≥ pd.gpus)) := by
  obtain ⟨ac', ag', n, hac', hag', hr, rfl⟩ := sizePilot_ok hs
  cases hac.symm.trans hac'
  cases hag.symm.trans hag'
  have key := reqNodes_le_iff pd hn hpos hr
  have ⟨h1, h2⟩ := (key n).mp (Nat.le_refl n)
  exact ⟨rfl, h1, h2, fun m hm hcov => Nat.not_le_of_lt hm ((key m).mpr hcov)⟩

/-- **the agent is told what the job requests**: node, core and GPU figures of
    the agent configuration agree with the batch job description, the job asks
    for whole nodes, and the per-node figure given to the agent is the node
    size including hardware threads -/
theorem C17_agree (rc : RC) (pd : PD) (sz : Sizing) (hs : sizePilot rc pd = .ok sz) :
    sz.agentNodes + sz.agentBackup = sz.nodeCount
    ∧ sz.agentCores = sz.totalCpu ∧ sz.agentGpus = sz.totalGpu
    ∧ sz.agentBackup = pd.backup
    ∧ sz.agentCoresPerNode = coresPerNode rc ∧ sz.agentGpusPerNode = rc.gpn
    ∧ (∀ ac, availCores rc = some ac → sz.procsPerHost = ac
          ∧ (sz.nodeCount * ac ≠ 0 → sz.totalCpu = sz.nodeCount * ac))
    ∧ (∀ ag, availGpus rc = some ag → sz.nodeCount * ag ≠ 0 → sz.totalGpu = sz.nodeCount * ag) := by
  obtain ⟨ac, ag, n, hac, hag, _, rfl⟩ := sizePilot_ok hs
  refine ⟨rfl, rfl, rfl, rfl, rfl, rfl, fun ac' h => ?_, fun ag' h hne => ?_⟩
  · cases hac.symm.trans h
    exact ⟨rfl, orElse_of_ne _⟩
  · cases hag.symm.trans h
    exact orElse_of_ne _ hne

/-- nodes given explicitly: that many nodes (plus backup) are requested, and the
    request is refused when the platform's node size is unknown -/
theorem C17_nodes_given (rc : RC) (pd : PD) (hn : pd.nodes ≠ 0) (ac ag : Nat)
    (hac : availCores rc = some ac) (hag : availGpus rc = some ag) :
    (ac = 0 → sizePilot rc pd = .error .runtime)
    ∧ (ac ≠ 0 → ∃ sz, sizePilot rc pd = .ok sz ∧ sz.nodeCount = pd.nodes + pd.backup
                       ∧ sz.totalCpu = (pd.nodes + pd.backup) * ac) := by
  rw [sizePilot_eq rc pd hac hag, reqNodes, if_pos hn]
  constructor
  · intro h0
    rw [if_pos h0]
    rfl
  · intro h0
    rw [if_neg h0]
    exact ⟨_, rfl, rfl, orElse_of_ne _ (Nat.mul_ne_zero (fun h => hn (Nat.eq_zero_of_add_eq_zero_right h)) h0)⟩

/-- blocked cores and hardware threads are taken into account -/
theorem C17_avail (rc : RC) (ac : Nat) (h : availCores rc = some ac) (hc : rc.cpn ≠ 0) (hs : rc.smt ≠ 0) :
    ac = rc.cpn * rc.smt - rc.blockedCores ∧ (rc.blockedCores ≠ 0 → 0 < ac) := by
  have hcpn : coresPerNode rc = rc.cpn * rc.smt := if_pos ⟨hc, hs⟩
  obtain ⟨h1, h2⟩ := (availCores_eq_some rc ac).mp h
  rw [hcpn] at h1 h2
  exact ⟨h1, fun hb => h1 ▸ Nat.sub_pos_of_lt (h2 (Nat.mul_ne_zero hc hs) hb)⟩

/-- **the per-host figure of the job matches its totals**: the batch system is told the usable cores of a
    node as processes per host, and (for a node of known size) the total is the node count times that
    figure - what the batch system derives from the two is the node count the pilot was sized for -/
theorem C17_per_host (rc : RC) (pd : PD) (sz : Sizing) (ac : Nat) (hs : sizePilot rc pd = .ok sz)
    (hac : availCores rc = some ac) :
    sz.procsPerHost = ac ∧ (sz.nodeCount * ac ≠ 0 → sz.totalCpu = sz.nodeCount * sz.procsPerHost) := by
  obtain ⟨_, _, _, _, _, _, hcores, _⟩ := C17_agree rc pd sz hs
  obtain ⟨hpph, htotal⟩ := hcores ac hac
  refine ⟨hpph, fun hne => ?_⟩
  rw [hpph]
  exact htotal hne

/-- a pilot given by cores and GPUs is always turned into a job when the blocked cores/GPUs fit the
    node - in particular on a platform that declares no GPUs per node (the GPU term is skipped and the
    requested GPU count is passed on) and on one that declares no node size at all -/
theorem C17_sized_always (rc : RC) (pd : PD) (hn : pd.nodes = 0)
    (hc : rc.blockedCores = 0 ∨ rc.blockedCores < coresPerNode rc) (hg : rc.blockedGpus ≤ rc.gpn ∨ rc.gpn = 0) :
    ∃ sz, sizePilot rc pd = .ok sz ∧ (rc.gpn = 0 → sz.totalGpu = pd.gpus ∧ sz.agentGpus = pd.gpus) := by
  have hac := (availCores_eq_some rc _).mpr ⟨rfl, fun _ hb => hc.resolve_left hb⟩
  have hag := (availGpus_eq_some rc _).mpr ⟨rfl, fun h0 _ => hg.resolve_right h0⟩
  rw [sizePilot_eq rc pd hac hag, reqNodes, if_neg (not_not_intro hn)]
  refine ⟨_, rfl, fun h0 => ?_⟩
  have h : ∀ n, orElse (n * (rc.gpn - rc.blockedGpus)) pd.gpus = pd.gpus := by
    intro n
    rw [h0, Nat.zero_sub, Nat.mul_zero]
    rfl
  exact ⟨h _, h _⟩

/-! a Summit-like node, 42 cores x smt 4, 4 blocked, 6 GPUs; 1000 cores, 40 GPUs, 1 backup node
    -> 7 + 1 nodes of 164 usable cores -/
example : sizePilot ⟨42, 6, 4, 4, 0⟩ ⟨0, 1000, 40, 1⟩
    = .ok ⟨8, 1312, 48, 164, 7, 1, 1312, 48, 168, 6⟩ := by rfl

/-- GPUs requested on a platform without declared GPUs (an Expanse-like node, 128 cores) -/
example : sizePilot ⟨128, 0, 1, 0, 0⟩ ⟨0, 256, 4, 0⟩ = .ok ⟨2, 256, 4, 128, 2, 0, 256, 4, 128, 0⟩ := by rfl

/-! ## (c) the agent works with the nodes it was told (the translated guard is in Gen/Exec.lean) -/

/-- **C17, the agent keeps the node count it was told**: with the guard of the fallback in the agent's resource manager
    as the translator reads it (`Gen.agentKeepsToldNodes`), an agent told a node count works with it, whatever the core
    and GPU figures of the job (which include the backup nodes) would give: the backup nodes stay in reserve -/
theorem C17_agent_keeps_told_nodes (told derived : Nat) (h : 0 < told) :
    agentNodes Gen.agentKeepsToldNodes told derived = told := by
  have e : Gen.agentKeepsToldNodes = true := rfl
  rw [e, agentNodes, if_pos rfl, if_neg (Nat.ne_of_gt h)]

/-- a pilot of 2 nodes plus 1 backup node: derived from the figures of the job the agent would work with 3 -/
theorem C17_agent_keeps_told_nodes_witness : agentNodes false 2 3 = 3 ∧ agentNodes true 2 3 = 2 ∧ agentNodes true 0 3 = 3 := by decide

end RPVerif.C17
