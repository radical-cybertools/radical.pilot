import RPVerif.Lemmas.Exec
import RPVerif.Model.Noop
import RPVerif.Lemmas.WatchQueue
import RPVerif.Lemmas.Timeout
import RPVerif.Gen.Exec

/-!
# C07 — The executor finishes each task exactly once

`run {} cs` is the executor handling one accepted task under the schedule `cs`:
any interleaving of the intake thread, the process watcher, any number of
`cancel_task` invocations (control thread, timeout watcher, the late check in
`_launch_task`), the process exiting by itself with any code, cancel requests
and timeouts arriving at any moment, and the launch preparation failing.
-/
namespace RPVerif.C07
open RPVerif.Exec List

/-- **safety, for every schedule**: execution start is announced at most once,
    the task is handed on (to output staging, or as FAILED) at most once, its
    resources are asked to be released at most once — and exactly as often as it
    was handed on -/
theorem C07_safety (cs : List Choice) :
    (run {} cs).started ≤ 1
    ∧ (run {} cs).handed + (run {} cs).failed ≤ 1
    ∧ (run {} cs).unsched ≤ 1
    ∧ (run {} cs).unsched = (run {} cs).handed + (run {} cs).failed :=
  (inv_run cs {} inv_init).safety

/-- a collected task is never also canceled: the outcome is attached by the one
    thread that removed the uid from `_tasks` under the lock; with `handed <= 1`
    there is one outcome.  (Stated on the token: at most one thread is ever
    between taking the task and handing it on.) -/
theorem C07_single_owner (cs : List Choice) : owners (run {} cs) + (run {} cs).handed ≤ 1 :=
  (inv_run cs {} inv_init).single_owner

/-- quiescence: every thread has run to its end and the watcher has nothing left to watch -/
def Done (s : ES) : Prop :=
  s.intake = .iDone ∧ s.watcher = .wIdle ∧ s.watching = false ∧ ∀ c ∈ s.cancels, c = CPc.cDone

theorem complete_of_done {s : ES} (h : Inv s) (hl : Live s) (hd : Done s) :
    s.started = 1 ∧ s.handed + s.failed = 1 ∧ s.unsched = 1 := by
  obtain ⟨d1, d2, d3, d4⟩ := hd
  have hs : s.started = 1 := by
    rw [h.started_eq, d1]
    rfl
  have hu := h.unsched_eq
  refine ⟨hs, ?_⟩
  by_cases hf1 : s.failed = 1
  · have := h.handed_of_failed hf1
    omega
  · have hf0 : s.failed = 0 := by have := h.failed_le_one; omega
    -- a launched task still in `_tasks` would be on the watch list or in the watcher's hands (`Live`)
    have hin : s.inTasks = false := by
      cases hh : s.inTasks
      · rfl
      · rcases hl.watch (by rw [d1]; rfl) hf0 hh with w | w
        · rw [d3] at w; cases w
        · rw [d2] at w; cases w
    -- and no thread owns it, so the one token is in `handed`
    have hoC : ownersC s = 0 := owners_early s.cancels fun c hc => .inr (d4 c hc)
    have ht := h.tok_eq
    simp only [tok, owners, ownersI, ownersW, d1, d2, hoC, hin, b2n] at ht
    omega

/-- **never left behind**: in every quiescent state reachable by any schedule the
    accepted task has been announced once, handed on exactly once (to output
    staging or as FAILED) and its resources have been released exactly once -/
theorem C07_complete (cs : List Choice) (hd : Done (run {} cs)) :
    (run {} cs).started = 1
    ∧ (run {} cs).handed + (run {} cs).failed = 1
    ∧ (run {} cs).unsched = 1 :=
  complete_of_done (inv_run cs {} inv_init) (live_run cs {} inv_init live_init) hd

/-- a launch failure is reported as FAILED, never handed to output staging -/
theorem C07_fault_outcome (cs : List Choice) (h1 : (run {} cs).failed = 1) : (run {} cs).handed = 0 :=
  (inv_run cs {} inv_init).handed_of_failed h1

/-! non-vacuity (tests): cancel racing process exit, either order, one finisher -/
example : (run {} [.intake, .intake, .intake, .intake, .cancelReq, .cancel 0, .cancel 0, .exit 0,
                   .watcher, .watcher, .watcher, .cancel 0, .cancel 0, .cancel 0, .cancel 0,
                   .watcher, .watcher, .watcher]).outcome = some .canceled := rfl
example : Done (run {} [.intake, .intake, .intake, .intake, .exit 3, .watcher, .watcher, .watcher, .watcher,
                        .watcher, .watcher]) := by
  unfold Done
  decide

/-- the events of one task of a bulk (uid, launch fails, exit code) -/
def taskEvents (t : Nat × Bool × Nat) : List BEv :=
  [.start t.1, .unsched t.1, if t.2.1 then .failed t.1 else .handed t.1 (t.2.2 == 0)]

def evUid : BEv → Nat
  | .start u | .unsched u | .failed u | .handed u _ => u

theorem evUid_of_mem_taskEvents {e : BEv} {t : Nat × Bool × Nat} (h : e ∈ taskEvents t) : evUid e = t.1 := by
  simp only [taskEvents, mem_cons, not_mem_nil, or_false] at h
  rcases h with rfl | rfl | rfl
  · rfl
  · rfl
  · split <;> rfl

theorem count_bulkEvents (ts : List (Nat × Bool × Nat)) (e : BEv) :
    (bulkEvents ts).count e = (ts.flatMap taskEvents).count e := by
  induction ts with
  | nil => rfl
  | cons x xs ih =>
    rw [flatMap_cons, count_append, ← ih]
    -- the events of the first task stand at the front of their segments of `bulkEvents`
    obtain ⟨u, f, c⟩ := x
    cases f
    · simp only [bulkEvents, taskEvents, filter_cons, map_cons, count_append, count_cons, count_nil,
        Bool.not_false, Bool.false_eq_true, if_true, if_false]
      ac_rfl
    · simp only [bulkEvents, taskEvents, filter_cons, flatMap_cons, map_cons, count_append, count_cons, count_nil,
        Bool.not_true, Bool.false_eq_true, if_true, if_false]
      ac_rfl

theorem count_flatMap_of_nodup {α β κ : Type} [DecidableEq β] (f : α → List β) (key : α → κ) (l : List α)
    (hn : (l.map key).Nodup) (t : α) (ht : t ∈ l) (e : β) (he : ∀ y, e ∈ f y → key y = key t) :
    (l.flatMap f).count e = (f t).count e := by
  induction l with
  | nil => cases ht
  | cons x xs ih =>
    obtain ⟨hx, hn⟩ := nodup_cons.mp hn
    rw [flatMap_cons, count_append]
    rcases mem_cons.mp ht with rfl | ht
    · have h0 : (xs.flatMap f).count e = 0 := count_eq_zero.mpr fun hm => by
        obtain ⟨y, hy, hey⟩ := mem_flatMap.mp hm
        exact hx (he y hey ▸ mem_map_of_mem hy)
      rw [h0, Nat.add_zero]
    · have h0 : (f x).count e = 0 := count_eq_zero.mpr fun hm => hx (he x hm ▸ mem_map_of_mem ht)
      rw [h0, Nat.zero_add, ih hn ht]

/-- **every task of a bulk gets its own outcome**: with distinct uids, whatever subset of the bulk
    cannot be launched, every task's start is announced once, its resources are released once, and
    it is handed on exactly once - as FAILED if its own launch failed, to output staging (with its
    own exit code) otherwise; a launch error never touches another task of the bulk -/
theorem C07_bulk (ts : List (Nat × Bool × Nat)) (hn : (ts.map (·.1)).Nodup) (t : Nat × Bool × Nat) (ht : t ∈ ts) :
    (bulkEvents ts).count (.start t.1) = 1
    ∧ (bulkEvents ts).count (.unsched t.1) = 1
    ∧ (bulkEvents ts).count (.failed t.1) = (if t.2.1 then 1 else 0)
    ∧ (bulkEvents ts).count (.handed t.1 (t.2.2 == 0)) = (if t.2.1 then 0 else 1)
    ∧ (∀ b, (bulkEvents ts).count (.handed t.1 b) ≤ (if t.2.1 then 0 else 1)) := by
  have key : ∀ e, evUid e = t.1 → (bulkEvents ts).count e = (taskEvents t).count e := fun e he =>
    (count_bulkEvents ts e).trans
      (count_flatMap_of_nodup taskEvents (·.1) ts hn t ht e fun y hy => (evUid_of_mem_taskEvents hy).symm.trans he)
  obtain ⟨u, f, c⟩ := t
  refine ⟨?_, ?_, ?_, ?_, fun b => ?_⟩
  all_goals
    rw [key _ rfl]
    cases f <;> simp [taskEvents, count_cons]
  -- left over: the last goal, for a launched task
  exact ite_le_one (Nat.le_refl 1) (Nat.zero_le 1)

example : bulkEvents [(0, false, 0), (1, true, 0), (2, false, 3)]
    = [.start 0, .start 1, .start 2, .unsched 1, .failed 1, .unsched 0, .unsched 2, .handed 0 true, .handed 2 false] := rfl

section noop
open RPVerif.Noop

/-- `cons`: conservation -/
structure NoopInv (ops : List Op) (s : St) : Prop where
  started : ∀ u, s.evs.count (.start u) = (accepted ops).count u
  cons    : ∀ u, (accepted ops).count u = s.tasks.count u + s.evs.count (.handed u)
  paired  : ∀ u, s.evs.count (.unsched u) = s.evs.count (.handed u)

theorem count_map_of_inj {α β : Type} [DecidableEq α] [DecidableEq β] {g : α → β} (hg : ∀ {a b}, g a = g b → a = b)
    (l : List α) (a : α) : (l.map g).count (g a) = l.count a := by
  rw [count_eq_countP, countP_map, count_eq_countP]
  exact countP_congr fun x _ =>
    ⟨fun h => beq_iff_eq.mpr (hg (beq_iff_eq.mp h)), fun h => beq_iff_eq.mpr (congrArg g (beq_iff_eq.mp h))⟩

theorem count_map_zero {α β : Type} [DecidableEq β] (g : α → β) (l : List α) (e : β) (h : ∀ x, g x ≠ e) :
    (l.map g).count e = 0 :=
  count_eq_zero.mpr (fun hm => by obtain ⟨x, _, hx⟩ := mem_map.mp hm; exact h x hx)

theorem accepted_append (a b : List Op) : accepted (a ++ b) = accepted a ++ accepted b := by
  induction a with
  | nil => rfl
  | cons o os ih => cases o <;> simp [accepted, ih]

theorem accepted_work (ops : List Op) (b : List Nat) : accepted (ops ++ [.work b]) = accepted ops ++ b := by
  rw [accepted_append, accepted, accepted, append_nil]

theorem accepted_collect (ops : List Op) (due : List Nat) : accepted (ops ++ [.collect due]) = accepted ops := by
  rw [accepted_append, accepted, accepted, append_nil]

theorem noop_step_inv (ops : List Op) (s : St) (o : Op) (h : NoopInv ops s) : NoopInv (ops ++ [o]) (Noop.step s o) := by
  have hst := count_map_of_inj (g := Ev.start) Ev.start.inj
  have hun := count_map_of_inj (g := Ev.unsched) Ev.unsched.inj
  have hha := count_map_of_inj (g := Ev.handed) Ev.handed.inj
  cases o with
  | work b =>
    have hacc := accepted_work ops b
    refine ⟨fun u => ?_, fun u => ?_, fun u => ?_⟩
    · rw [hacc, Noop.step, count_append, count_append, hst, h.started u]
    · rw [hacc, Noop.step, count_append, count_append, count_append,
        count_map_zero Ev.start b (.handed u) fun _ => Ev.noConfusion, h.cons u, Nat.add_zero, Nat.add_right_comm]
    · rw [Noop.step, count_append, count_append, count_map_zero Ev.start b (.unsched u) fun _ => Ev.noConfusion,
        count_map_zero Ev.start b (.handed u) fun _ => Ev.noConfusion, h.paired u]
  | collect due =>
    have hacc := accepted_collect ops due
    refine ⟨fun u => ?_, fun u => ?_, fun u => ?_⟩
    · rw [hacc, Noop.step, count_append, count_append, count_map_zero Ev.unsched _ (.start u) fun _ => Ev.noConfusion,
        count_map_zero Ev.handed _ (.start u) fun _ => Ev.noConfusion, h.started u]
      rfl
    · rw [hacc, Noop.step, count_append, count_append, hha,
        count_map_zero Ev.unsched _ (.handed u) fun _ => Ev.noConfusion, h.cons u,
        ← ListAux.count_filter_add (fun x => due.contains x) s.tasks u]
      ac_rfl
    · rw [Noop.step, count_append, count_append, count_append, count_append, hun, hha,
        count_map_zero Ev.handed _ (.unsched u) fun _ => Ev.noConfusion,
        count_map_zero Ev.unsched _ (.handed u) fun _ => Ev.noConfusion, h.paired u]
      rfl

theorem noop_foldl_inv (done todo : List Op) (s : St) (h : NoopInv done s) :
    NoopInv (done ++ todo) (todo.foldl Noop.step s) := by
  induction todo generalizing done s with
  | nil => rwa [append_nil]
  | cons o os ih =>
    rw [append_cons]
    exact ih _ _ (noop_step_inv done s o h)

theorem noop_run_inv (ops : List Op) : NoopInv ops (Noop.run ops) :=
  noop_foldl_inv [] ops {} ⟨fun _ => rfl, fun _ => rfl, fun _ => rfl⟩

/-- **the NOOP executor neither loses nor duplicates a task**: for every sequence of `work` calls and
    collector passes (any bulks, any deadlines), every task handed to `work` was announced once and is
    either still held or was handed on - never both, never twice when uids are distinct - and the
    unschedule message was published exactly as often as the task was handed on -/
theorem C07_noop (ops : List Op) (u : Nat) :
    (Noop.run ops).evs.count (.start u) = (accepted ops).count u
    ∧ (accepted ops).count u = (Noop.run ops).tasks.count u + (Noop.run ops).evs.count (.handed u)
    ∧ (Noop.run ops).evs.count (.unsched u) = (Noop.run ops).evs.count (.handed u) :=
  ⟨(noop_run_inv ops).started u, (noop_run_inv ops).cons u, (noop_run_inv ops).paired u⟩

/-- **NOOP, never left behind**: after a collector pass for which every deadline has passed nothing is held any more:
    every accepted task (distinct uids) was handed on exactly once and released exactly once -/
theorem C07_noop_complete (ops : List Op) (due : List Nat) (hn : (accepted ops).Nodup)
    (hd : ∀ u ∈ (Noop.run ops).tasks, u ∈ due) (u : Nat) (hu : u ∈ accepted ops) :
    (Noop.run (ops ++ [.collect due])).tasks = []
    ∧ (Noop.run (ops ++ [.collect due])).evs.count (.handed u) = 1
    ∧ (Noop.run (ops ++ [.collect due])).evs.count (.unsched u) = 1 := by
  have hrun : Noop.run (ops ++ [.collect due]) = Noop.step (Noop.run ops) (.collect due) := by
    rw [Noop.run, foldl_append]
    rfl
  have hinv := noop_step_inv ops (Noop.run ops) (.collect due) (noop_run_inv ops)
  have hempty : (Noop.step (Noop.run ops) (.collect due)).tasks = [] :=
    filter_eq_nil_iff.mpr fun x hx => by simp [hd x hx]
  have hc := hinv.cons u
  rw [accepted_collect, hempty, hn.count, if_pos hu, count_nil, Nat.zero_add] at hc
  rw [hrun]
  exact ⟨hempty, hc.symm, (hinv.paired u).trans hc.symm⟩

end noop

open RPVerif.WatchQueue in
/-- **no launched task is lost between the intake and the watcher**: over every history of bursts of launched
    tasks and watcher passes, with any bulk limit per pass and whatever the processes do, each task is in
    exactly as many places - still queued, on the watch list, or collected - as it was put on the queue -/
theorem C07_watch_queue_conserves (limit : Nat) (ops : List Op) (t : Nat) :
    cnt (run limit {} ops) t = (enqueued ops).count t := by
  rw [run_cnt]; simp [cnt]

open RPVerif.WatchQueue in
/-- the queue is drained `limit` tasks per pass: after `k` passes without new arrivals at most
    `|queue| - k * limit` launched tasks have not yet been looked at -/
theorem C07_watch_queue_drains (limit : Nat) (w : WQ) (exs : List (List Nat)) :
    (run limit w (exs.map Op.pass)).queue.length = w.queue.length - exs.length * limit := by
  induction exs generalizing w with
  | nil => simp [WatchQueue.run]
  | cons e es ih =>
    rw [map_cons, run_cons, ih]
    show (w.queue.drop limit).length - es.length * limit = _
    rw [length_drop, Nat.sub_sub, length_cons, Nat.succ_mul, Nat.add_comm]

open RPVerif.Timeout in
/-- **a run-time limit that has passed is enforced at the next pass of the timeout watcher**: whatever entry
    the watcher holds for a task after taking in what was handed to it - if its cancel time is a real
    deadline and lies in the past, `cancel_task` is called for that task in this pass -/
theorem C07_deadline_enforced (w : TW) (now u ct : Nat) (hm : (u, ct) ∈ w.pending.foldl merge w.table)
    (h0 : ct ≠ 0) (hlt : ct < now) : u ∈ (pass w now).2 :=
  mem_pass.mpr ⟨ct, hm, h0, hlt⟩

/-- test: 5 tasks launched in one burst, bulk limit 4: the fifth is looked at in the second pass -/
example : (WatchQueue.run 4 {} [.enq [0, 1, 2, 3, 4], .pass []]).watching = [0, 1, 2, 3]
    ∧ (WatchQueue.run 4 {} [.enq [0, 1, 2, 3, 4], .pass [], .pass []]).watching = [0, 1, 2, 3, 4] := by decide

open RPVerif.WatchQueue in
/-- **C07, never left behind at the hand-over**: with the order of `Popen._launch_task` as the translator reads it
    (`Gen.procAttachedBeforeQueued`: the process handle is on the task before the task is queued for the watcher),
    at whatever moment of the launch the watcher thread makes a pass, it never meets a queued task without its handle -
    the case it takes for "finalised by the cancel path" and drops for good -/
theorem C07_launched_task_never_dropped (i : Nat) :
    (launchRun (withWatchAt (launchOrder Gen.procAttachedBeforeQueued) i)).dropped = false := by
  have e : Gen.procAttachedBeforeQueued = true := rfl
  rw [e]
  -- the pass comes before, between or - for every `i` from 2 on - after the two statements
  match i with
  | 0 => decide
  | 1 => decide
  | (k + 2) =>
    have hl : (launchOrder true).length ≤ k + 2 := Nat.le_add_left 2 k
    rw [withWatchAt, take_of_length_le hl, drop_of_length_le hl]
    decide

open RPVerif.WatchQueue in
/-- the order matters: queued first, a pass of the watcher between the two statements forgets the task -/
theorem C07_launched_task_witness :
    (launchRun (withWatchAt (launchOrder false) 1)).dropped = true := by decide

end RPVerif.C07
