import RPVerif.Lemmas.States
import RPVerif.Gen.States
import RPVerif.Model.Callbacks

/-!
# C13 — A dying pilot fails its own tasks and only those

`pilotStateCb` is the model of `TaskManager._pilot_state_cb` (it calls the model
of `Task._update`).  `ps` is the list of `(pilot id, pilot state)` the callback
is invoked with — several pilots, in any order.
-/
namespace RPVerif.C13
open RPVerif.States

def N : Nat := Gen.taskStateValues.length - 3

def affected (ps : List (Nat × St)) (t : Task) : Bool :=
  !t.state.isFinal && ps.any (fun q => q.2.isFinal && t.pilot == some q.1)

/-- what the property demands for one task -/
def expected (ps : List (Nat × St)) (t : Task) : Task :=
  if affected ps t then { t with state := .failed, detail := t.pilot } else t

/-- what the end of pilot `pid` does to one task -/
def failOne (pid : Nat) (t : Task) : Task :=
  if t.pilot = some pid ∧ ¬ t.state.isFinal then { t with state := .failed, detail := some pid } else t

theorem pilotFinalOne_eq (pid : Nat) (ts : Tasks) :
    pilotFinalOne N pid ts
      = .ok (ts.map (failOne pid), (ts.filter (fun t => t.pilot = some pid ∧ ¬ t.state.isFinal)).map (·.uid)) := by
  induction ts with
  | nil => rfl
  | cons t ts ih =>
    unfold pilotFinalOne
    rw [ih]
    by_cases hc : t.pilot = some pid ∧ ¬ t.state.isFinal
    · have hstep : Step N t.state .failed := ⟨by simpa using hc.2, trivial, .inr rfl⟩
      have hu := taskUpdate_step (N := N) t { uid := t.uid, state := .failed, detail := some pid } .failed hstep
      simp only [Option.some_or] at hu
      rw [if_pos hc, hu]
      simp only [List.map_cons, failOne, if_pos hc, List.filter_cons, decide_eq_true hc, if_true]
    · rw [if_neg hc]
      simp only [List.map_cons, failOne, if_neg hc, List.filter_cons, decide_eq_false hc, Bool.false_eq_true, if_false]

theorem affected_iff (ps : List (Nat × St)) (t : Task) :
    affected ps t = true ↔ t.state.isFinal = false ∧ ∃ p s, (p, s) ∈ ps ∧ s.isFinal = true ∧ t.pilot = some p := by
  simp only [affected, Bool.and_eq_true, Bool.not_eq_true', List.any_eq_true, beq_iff_eq, Prod.exists]

theorem affected_cons (p : Nat) (s : St) (ps : List (Nat × St)) (t : Task) :
    affected ((p, s) :: ps) t = true
      ↔ (s.isFinal = true ∧ t.pilot = some p ∧ t.state.isFinal = false) ∨ affected ps t = true := by
  simp only [affected_iff, List.mem_cons, Prod.mk.injEq]
  constructor
  · rintro ⟨hn, q, r, (⟨rfl, rfl⟩ | hm), hr, hb⟩
    · exact .inl ⟨hr, hb, hn⟩
    · exact .inr ⟨hn, q, r, hm, hr, hb⟩
  · rintro (⟨hr, hb, hn⟩ | ⟨hn, q, r, hm, hr, hb⟩)
    · exact ⟨hn, p, s, .inl ⟨rfl, rfl⟩, hr, hb⟩
    · exact ⟨hn, q, r, .inr hm, hr, hb⟩

theorem expected_nil : expected [] = id := by
  funext t
  have h : affected [] t = false := by rw [affected, List.any_nil, Bool.and_false]
  rw [expected, h]
  rfl

theorem expected_cons_final (p : Nat) (s : St) (ps : List (Nat × St)) (hs : s.isFinal = true) :
    expected ps ∘ failOne p = expected ((p, s) :: ps) := by
  funext t
  show expected ps (failOne p t) = expected ((p, s) :: ps) t
  unfold expected failOne
  by_cases hc : t.pilot = some p ∧ ¬ t.state.isFinal
  · -- failed for `p`: final from here on, so no later pilot hits it
    have hn : t.state.isFinal = false := by simpa using hc.2
    have h2 : affected ((p, s) :: ps) t = true := (affected_cons p s ps t).mpr (.inl ⟨hs, hc.1, hn⟩)
    have h1 : ¬ affected ps { t with state := .failed, detail := some p } = true :=
      fun h => Bool.noConfusion ((affected_iff _ _).mp h).1
    rw [if_pos hc, if_neg h1, if_pos h2, hc.1]
  · have h2 : affected ((p, s) :: ps) t = affected ps t := by
      rw [Bool.eq_iff_iff, affected_cons]
      exact ⟨fun h => h.resolve_left (fun h => hc ⟨h.2.1, by simp [h.2.2]⟩), .inr⟩
    rw [if_neg hc, h2]

theorem expected_cons_nonfinal (p : Nat) (s : St) (ps : List (Nat × St)) (hs : s.isFinal = false) :
    expected ((p, s) :: ps) = expected ps := by
  funext t
  have h2 : affected ((p, s) :: ps) t = affected ps t := by
    rw [Bool.eq_iff_iff, affected_cons, hs]
    exact ⟨fun h => h.resolve_left (fun h => nomatch h.1), .inr⟩
  rw [expected, expected, h2]

/-- **C13 (full statement)**: the callback never raises, and afterwards every
    task is exactly what the property demands: a non-final task bound to one of
    the pilots that ended is FAILED with a detail naming that pilot; every other
    task (bound elsewhere, unbound, or already final — DONE, FAILED or CANCELED)
    is unchanged in state, binding and recorded exception. -/
theorem C13 (ts : Tasks) (ps : List (Nat × St)) :
    ∃ pubs, pilotStateCb N ts ps = .ok (ts.map (expected ps), pubs) := by
  induction ps generalizing ts with
  | nil => exact ⟨[], by rw [expected_nil, List.map_id]; rfl⟩
  | cons q ps ih =>
    obtain ⟨p, s⟩ := q
    unfold pilotStateCb
    by_cases hs : s.isFinal = true
    · obtain ⟨pubs', h'⟩ := ih (ts.map (failOne p))
      simp only [if_pos hs, pilotFinalOne_eq, h', List.map_map, expected_cons_final p s ps hs]
      exact ⟨_, rfl⟩
    · obtain ⟨pubs', h'⟩ := ih ts
      rw [if_neg hs, h', expected_cons_nonfinal p s ps (by simpa using hs)]
      exact ⟨_, rfl⟩

/-- **its own tasks** (read off `expected`): a non-final task bound to a pilot that ended is FAILED, with a detail naming
    that pilot -/
theorem C13_own_tasks_failed (ps : List (Nat × St)) (t : Task) (p : Nat) (s : St)
    (hb : t.pilot = some p) (hm : (p, s) ∈ ps) (hs : s.isFinal = true)
    (hn : t.state.isFinal = false) :
    (expected ps t).state = .failed ∧ (expected ps t).detail = some p := by
  rw [expected, if_pos ((affected_iff ps t).mpr ⟨hn, p, s, hm, hs, hb⟩)]
  exact ⟨rfl, hb⟩

/-- **and only those**: an unbound task, a final task, and a task bound to none of the pilots that ended stay as they are -/
theorem C13_others_untouched (ps : List (Nat × St)) (t : Task)
    (h : t.pilot = none ∨ t.state.isFinal = true
         ∨ ∀ p s, (p, s) ∈ ps → s.isFinal = true → t.pilot ≠ some p) :
    expected ps t = t := by
  rw [expected, if_neg]
  rw [affected_iff]
  rintro ⟨hn, p, s, hm, hs, hb⟩
  rcases h with h | h | h
  · rw [h] at hb; cases hb
  · rw [h] at hn; cases hn
  · exact h p s hm hs hb

/-- **order independence**: the outcome does not depend on the order in which
    several pilots end -/
theorem C13_order (ts : Tasks) (ps ps' : List (Nat × St)) (h : ∀ q, q ∈ ps ↔ q ∈ ps') :
    ts.map (expected ps) = ts.map (expected ps') := by
  apply List.map_congr_left
  intro t _
  have : affected ps t = affected ps' t := by
    rw [Bool.eq_iff_iff, affected_iff, affected_iff]
    simp only [h]
  rw [expected, expected, this]

/-! non-vacuity (a test): two pilots, one ends; a canceled task of the dead pilot,
    an unbound task and a task of the other pilot are untouched -/
example :
    pilotStateCb N [⟨0, .nf 9, some 1, none⟩, ⟨1, .nf 4, some 2, none⟩, ⟨2, .nf 1, none, none⟩,
                    ⟨3, .canceled, some 1, none⟩, ⟨4, .done, some 1, none⟩]
                   [(1, .failed), (2, .nf 4)]
      = .ok ([⟨0, .failed, some 1, some 1⟩, ⟨1, .nf 4, some 2, none⟩, ⟨2, .nf 1, none, none⟩,
              ⟨3, .canceled, some 1, none⟩, ⟨4, .done, some 1, none⟩], [0]) := by
  rfl

theorem runChain_prefix (pre : List Cb) (tm : Cb) (rest : List Cb) (h : ∀ c ∈ pre, c.raises = false) :
    tm.id ∈ runChain (pre ++ tm :: rest) := by
  induction pre with
  | nil =>
    simp only [List.nil_append, runChain]
    split <;> simp
  | cons c cs ih =>
    obtain ⟨hc, hcs⟩ := List.forall_mem_cons.mp h
    simp only [List.cons_append, runChain, hc, Bool.false_eq_true, if_false]
    exact List.mem_cons_of_mem _ (ih hcs)

/-- **an application callback on the pilot manager cannot keep a dying pilot's tasks alive**: the
    task manager's callback is registered on the pilot object, so it has run before any callback of
    the pilot manager is called - whatever those do (raise, return), and whatever callbacks were
    registered on the pilot after it; only a raising callback registered on the pilot before it can
    prevent it -/
theorem C13_callback_order (pre post pmgr : List Cb) (tm : Cb) (h : ∀ c ∈ pre, c.raises = false) :
    tm.id ∈ pilotUpdateCbs (pre ++ tm :: post) pmgr := by
  unfold pilotUpdateCbs
  rw [List.append_assoc, List.cons_append]
  exact runChain_prefix pre tm (post ++ pmgr) h

/-- with the pilot manager's callbacks called first, one that raises keeps the task manager's from
    running (witness for the order) -/
theorem C13_callback_order_witness :
    (0 : Nat) ∉ runChain ([⟨7, true⟩] ++ [⟨0, false⟩]) := by decide

theorem C13_pilot_cb_snapshot : Gen.pilotCbSnapshot = true ∧ Gen.pmgrCbSnapshot = true := by decide

/-- **the task manager's callback is reached whatever the application's callbacks do to the registry**:
    every callback registered on the pilot (and then every one registered on the pilot manager) when a
    state is delivered is called exactly once and no exception escapes the walk - a one-shot callback
    that unregisters itself at the final state does not keep the task manager from failing the tasks of
    the dead pilot.  Holds because both loops walk a copy of the registry (`C13_pilot_cb_snapshot`, read
    from the source; repaired by f9f0a5a - the walk over the live registry lost every later callback). -/
theorem C13_registry_use_harmless (reg : List Nat) (act : Nat → Callbacks.Edit) :
    (Callbacks.deliver Gen.pilotCbSnapshot reg act).1 = reg ∧ (Callbacks.deliver Gen.pilotCbSnapshot reg act).2.2 = false ∧
    (Callbacks.deliver Gen.pmgrCbSnapshot reg act).1 = reg ∧ (Callbacks.deliver Gen.pmgrCbSnapshot reg act).2.2 = false := by
  rw [C13_pilot_cb_snapshot.1, C13_pilot_cb_snapshot.2]
  exact ⟨rfl, rfl, rfl, rfl⟩

/-- the defect that was repaired (test): walking the live registry, a one-shot application callback (1)
    registered before the task manager's (0) ends the walk - the task manager is never called -/
example : Callbacks.deliver false [1, 0] (fun id => if id = 1 then .unregister 1 else .nothing) = ([1], [0], true) := rfl

/-! ## a pilot that ends while tasks bound to it are being submitted -/

/-- **the scan survives a concurrent submission**: `_pilot_state_cb` scans the task registry without the tasks
    lock, and `submit_tasks` on another thread may enter tasks while it does (`act id`: what happens to the registry
    while task `id` is being failed - anything).  With the code as it is (`Gen.tmgrScanSnapshot`: the scan walks a
    copy; repaired by 5756530 - the walk over the live registry ended with a RuntimeError at the first task entered
    meanwhile and the remaining tasks of the dead pilot were never failed) every task registered when the scan began
    is looked at and no exception escapes -/
theorem C13_scan_complete (reg : List Nat) (act : Nat → Callbacks.Edit) :
    (Callbacks.deliver Gen.tmgrScanSnapshot reg act).1 = reg ∧ (Callbacks.deliver Gen.tmgrScanSnapshot reg act).2.2 = false := by
  have e : Gen.tmgrScanSnapshot = true := by decide
  rw [e]; exact ⟨rfl, rfl⟩

/-- the defect that was repaired (test): three tasks, a task (9) entered while the first is being failed - the walk
    over the live registry stops after the first -/
example : Callbacks.deliver false [0, 1, 2] (fun id => if id = 0 then .register 9 else .nothing) = ([0], [0, 1, 2, 9], true) := rfl

/-- **no window between hand-over and registration**: with the code as it is (`Gen.submitRegistersFirst`:
    `submit_tasks` enters a bulk into the registry before it hands it to the scheduler, at every site), wherever
    the delivery of the pilot's final state falls between the steps of the submitting thread, a task of that pilot
    the scheduler already had when the pilot ended is found by the callback and failed -/
theorem C13_submission_window (i : Nat) :
    (Callbacks.subRun (Callbacks.withFinalAt (Callbacks.submitOrder Gen.submitRegistersFirst) i)).handedBefore = true →
    (Callbacks.subRun (Callbacks.withFinalAt (Callbacks.submitOrder Gen.submitRegistersFirst) i)).failed = true := by
  have e : Gen.submitRegistersFirst = true := rfl
  rw [e]
  -- the delivery comes before, between or (`i ≥ 2`) after the two steps of the submitting thread
  match i with
  | 0 => decide
  | 1 => decide
  | (k + 2) =>
    have hl : (Callbacks.submitOrder true).length ≤ k + 2 := Nat.le_add_left 2 k
    rw [Callbacks.withFinalAt, List.take_of_length_le hl, List.drop_of_length_le hl]
    decide

/-- the order matters: handing over first opens a window in which the pilot's end misses the task -/
theorem C13_submission_window_witness :
    (Callbacks.subRun (Callbacks.withFinalAt (Callbacks.submitOrder false) 1)).handedBefore = true
    ∧ (Callbacks.subRun (Callbacks.withFinalAt (Callbacks.submitOrder false) 1)).failed = false := by decide

/-! ## a pilot that ends while it is being activated -/

theorem updRun_update_ge (ts : List Nat) (s : Callbacks.UpdSt) :
    s.cur ≤ (Callbacks.updRun s (ts.map .update)).cur ∧ ∀ t ∈ ts, t ≤ (Callbacks.updRun s (ts.map .update)).cur := by
  induction ts generalizing s with
  | nil => exact ⟨Nat.le_refl _, nofun⟩
  | cons t0 rest ih =>
    obtain ⟨ih1, ih2⟩ : max s.cur t0 ≤ (Callbacks.updRun s ((t0 :: rest).map .update)).cur
        ∧ ∀ t ∈ rest, t ≤ (Callbacks.updRun s ((t0 :: rest).map .update)).cur :=
      ih (Callbacks.updStep s (.update t0))
    refine ⟨Nat.le_trans (Nat.le_max_left _ _) ih1, fun t ht => ?_⟩
    rcases List.mem_cons.mp ht with rfl | h1
    · exact Nat.le_trans (Nat.le_max_right _ _) ih1
    · exact ih2 t h1

/-- **no notified state is lost between two threads**: with the code as it is (`Gen.pmgrUpdateInLock`:
    `_update_pilot` reads, plans and applies within one section of the pilots lock), whatever order the lock lets the
    two notifications in, the pilot ends at least as far as both of them say - a FAILED that arrives while the pilot
    is being activated is not overwritten by the activation, so the callback of the task manager sees the final state -/
theorem C13_update_atomic (c a b : Nat) (evs : List Callbacks.UpdEv)
    (h : evs = (Callbacks.updThreads Gen.pmgrUpdateInLock a b).1 ++ (Callbacks.updThreads Gen.pmgrUpdateInLock a b).2
       ∨ evs = (Callbacks.updThreads Gen.pmgrUpdateInLock a b).2 ++ (Callbacks.updThreads Gen.pmgrUpdateInLock a b).1) :
    a ≤ (Callbacks.updRun ⟨c, []⟩ evs).cur ∧ b ≤ (Callbacks.updRun ⟨c, []⟩ evs).cur := by
  have e : Gen.pmgrUpdateInLock = true := by decide
  rw [e] at h
  rcases h with rfl | rfl
  · have hge := (updRun_update_ge [a, b] ⟨c, []⟩).2
    exact ⟨hge a List.mem_cons_self, hge b (List.mem_cons_of_mem _ List.mem_cons_self)⟩
  · have hge := (updRun_update_ge [b, a] ⟨c, []⟩).2
    exact ⟨hge a (List.mem_cons_of_mem _ List.mem_cons_self), hge b List.mem_cons_self⟩

/-- the lock section matters: with the application outside it the activation (value 4), planned before the final state
    (value 5) was applied, overwrites it -/
theorem C13_update_witness :
    (Callbacks.updRun ⟨2, []⟩ [.plan 0 4, .plan 1 5, .apply 1, .apply 0]).cur = 4 := by decide

/-! ## one description object re-used for several pilots -/

theorem submitShared_bound (subs : List (Nat × Nat)) (p : Nat) :
    ((submitShared true subs).filter (fun t => t.pilot = some p ∧ ¬ t.state.isFinal)).map (·.uid)
      = (subs.filter (fun s => s.2 = p)).map (·.1) := by
  simp only [submitShared, if_true, List.filter_map, List.map_map]
  congr 1
  apply List.filter_congr
  intro s _
  simp [St.isFinal]

/-- **C13 for tasks of one re-used description**: with the Task recording its pilot when it is created
    (`Gen.taskPilotSnapshot`, read from task.py), whatever the application does to the description object afterwards -
    in particular re-using it for the next pilot - the end of pilot `p` fails exactly the tasks that were submitted
    to `p`: its own and only those -/
theorem C13_shared_description (subs : List (Nat × Nat)) (p : Nat) :
    ∃ ts', pilotFinalOne N p (submitShared Gen.taskPilotSnapshot subs)
             = .ok (ts', (subs.filter (fun s => s.2 = p)).map (·.1)) := by
  have e : Gen.taskPilotSnapshot = true := by decide
  rw [e]
  exact ⟨_, by rw [pilotFinalOne_eq, submitShared_bound]⟩

/-- a live view of the description shows every task the pilot of the last submission: the end of pilot 0 fails nothing,
    the end of pilot 2 fails all three -/
theorem C13_shared_description_witness :
    (match pilotFinalOne 15 0 (submitShared false [(0, 0), (1, 1), (2, 2)]) with | .ok r => r.2 | .error _ => [99]) = []
    ∧ (match pilotFinalOne 15 2 (submitShared false [(0, 0), (1, 1), (2, 2)]) with | .ok r => r.2 | .error _ => [99]) = [0, 1, 2]
    ∧ (match pilotFinalOne 15 0 (submitShared true [(0, 0), (1, 1), (2, 2)]) with | .ok r => r.2 | .error _ => [99]) = [0] := by
  decide

end RPVerif.C13
