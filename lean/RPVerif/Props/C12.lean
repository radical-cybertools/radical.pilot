import RPVerif.Lemmas.TmgrSched
import RPVerif.Lemmas.RRBalance
import RPVerif.Lemmas.BFUsage
import RPVerif.Lemmas.BFConserve
import RPVerif.Lemmas.BFStates
import RPVerif.Gen.TmgrSched

/-!
# C12 — Each task is bound to exactly one eligible pilot

`rrRun` / `bfRun` are the models of the RoundRobin / Backfilling task-manager
schedulers; an op is one atomic callback (they run under the component locks).
-/
namespace RPVerif.C12
open RPVerif.TmgrSched List

/-- **conservation (round robin)**: over any history of callbacks, for every
    uid: (times forwarded) + (times still held in the wait pool or the
    early-binding list) = (times held initially) + (times submitted). -/
theorem C12_conservation (ops : List Op) (s : S) (a : Nat) :
    count a (fwdUids (rrRun s ops).2) + count a (held (rrRun s ops).1)
      = count a (held s) + count a (allNew ops) :=
  rrRun_conserve ops s a

/-- **forwarded exactly once, never lost**: if task uids are unique, every task
    is forwarded at most once, is never both forwarded and waiting, and every
    submitted task is either forwarded or still waiting (wait pool / waiting for
    its named pilot) — for every interleaving of submissions, pilot additions,
    removals and state notifications. -/
theorem C12_once (ops : List Op) (s : S) (hu : (held s ++ allNew ops).Nodup) :
    (fwdUids (rrRun s ops).2 ++ held (rrRun s ops).1).Nodup
    ∧ ∀ a, a ∈ held s ++ allNew ops ↔ a ∈ fwdUids (rrRun s ops).2 ++ held (rrRun s ops).1 := by
  have hc := fun a => C12_conservation ops s a
  constructor
  · rw [nodup_iff_count]
    intro a
    have := (nodup_iff_count.mp hu) a
    rw [count_append] at this ⊢
    rw [hc a]; exact this
  · intro a
    rw [← count_pos_iff, ← count_pos_iff, count_append, count_append, hc a]

/-- **tasks wait while no pilot is added**: nothing is forwarded by the round
    robin placement, the tasks are appended to the wait pool -/
theorem C12_waits (s : S) (ts : List Task) (h : s.pids = []) :
    rrSchedule s ts = ({ s with wait := s.wait ++ ts }, []) := by
  simp [rrSchedule, h]

/-- **unnamed tasks only go to pilots that are currently added** (`_pids`) -/
theorem C12_eligible (s : S) (ts : List Task) :
    ∀ p ∈ fwdPids (rrSchedule s ts).2, p ∈ s.pids := by
  unfold rrSchedule
  split
  · intro p hp; cases hp
  · next h =>
    rw [← targets_eq_fwdPids]
    exact rrAssign_targets_mem s.pids (length_pos_iff.mpr h) s.idx ts

/-- a successful `remove_pilots` takes every pilot it names out of `_pids`
    (which holds no pilot twice: `hn`) -/
theorem C12_removed_gone (s : S) (pids : List Nat) (p : Nat) (hp : p ∈ pids) (hn : s.pids.Nodup)
    (h : (rrRemovePilots s pids).2.2 = none) : p ∉ (rrRemovePilots s pids).1.pids := by
  unfold rrRemovePilots at h ⊢
  split at h
  · cases h
  · exact erasePids_gone hn h p hp

/-- **named tasks**: what `work` forwards directly are tasks naming a pilot whose
    dict is known, and they go to exactly that pilot; what it parks in the
    early-binding list are tasks naming a pilot not yet known -/
theorem C12_named (ps : List Pilot) (ts : List Task) (e : List (Nat × Task)) :
    (∀ o ∈ (workFilter ps e ts).2.1, ∃ t ∈ ts, o = Out.fwd t.uid (t.pilot.getD 0)
        ∧ ∃ pid, t.pilot = some pid ∧ isKnown ps pid = true)
    ∧ (∀ t ∈ (workFilter ps e ts).2.2, t ∈ ts ∧ t.pilot = none)
    ∧ (∀ x ∈ (workFilter ps e ts).1, x ∈ e ∨ (x.2 ∈ ts ∧ x.2.pilot = some x.1 ∧ isKnown ps x.1 = false)) := by
  rw [workFilter_eq]
  refine ⟨?_, ?_, ?_⟩
  · intro o ho
    obtain ⟨t, ht, rfl⟩ := mem_map.mp ho
    obtain ⟨ht, hk⟩ := mem_filter.mp ht
    exact ⟨t, ht, rfl, (Option.any_eq_true _ _).mp hk⟩
  · intro t ht
    obtain ⟨ht, hn⟩ := mem_filter.mp ht
    exact ⟨ht, Option.isNone_iff_eq_none.mp hn⟩
  · intro x hx
    rcases mem_append.mp hx with hx | hx
    · exact Or.inl hx
    · obtain ⟨t, ht, rfl⟩ := mem_map.mp hx
      obtain ⟨ht, hk⟩ := mem_filter.mp ht
      obtain ⟨pid, hp, hk⟩ := (Option.any_eq_true _ _).mp hk
      exact Or.inr ⟨ht, by rw [hp]; rfl, by rw [hp]; simpa using hk⟩

/-- when a pilot is added, exactly the tasks parked for it are forwarded to it
    and forgotten (so re-adding the pilot cannot forward them again) -/
theorem C12_early_flush (e : List (Nat × Task)) (pid : Nat) :
    (flushEarly e [pid]).2 = (e.filter (fun x => x.1 = pid)).map (fun x => Out.fwd x.2.uid pid)
    ∧ (flushEarly e [pid]).1 = e.filter (fun x => x.1 ≠ pid)
    ∧ (flushEarly (flushEarly e [pid]).1 [pid]).2 = [] := by
  refine ⟨append_nil _, rfl, ?_⟩
  -- no entry passes both filters
  show map _ (filter _ (filter _ e)) ++ [] = []
  rw [append_nil, filter_filter, map_eq_nil_iff, filter_eq_nil_iff]
  intro x _
  simp

/-- **backfilling never assigns to a pilot outside its eligible states or
    already at its high-water mark**: every pilot that receives a task in a
    scheduling pass was, at the start of the pass, ADDED, in a state within the
    backfilling window, and below its high-water mark -/
theorem C12_bf_window (c : BFCfg) (s : S) :
    ∀ p ∈ fwdPids (bfSchedule c s).2, p ∈ s.pids ∧
      ∃ pl, findPilot s.pilots p = some pl ∧ pl.role = .added
        ∧ (∃ v, pl.state = some v ∧ c.startVal ≤ v ∧ v ≤ c.stopVal) ∧ pl.used < (pl.hwm : Int) := by
  intro p hp
  obtain ⟨hm, pl, hf, he⟩ := mem_eligiblePids.mp (bfSchedule_fwdPids c s p hp)
  obtain ⟨hr, hw, hu⟩ := (bfEligible_iff c pl).mp he
  exact ⟨hm, pl, hf, hr, (inWindow_iff c pl.state).mp hw, hu⟩

example : (rrRun {} [.work [⟨0, some 7, 1⟩, ⟨1, none, 1⟩], .addPilots [7] [4], .removePilots [7],
                     .addPilots [7] [4], .work [⟨2, none, 1⟩]]).2
    = [.sched 0, .sched 1, .fwd 0 7, .fwd 1 7, .sched 2, .fwd 2 7] := rfl

/-- **round robin balance**: for every list of eligible pilots (no duplicates), every stored index
    (in or beyond the list) and every batch of tasks without a named pilot, the numbers of tasks
    forwarded to any two eligible pilots differ by at most one, every task of the batch is forwarded,
    and only to eligible pilots -/
theorem C12_rr_balance (pids : List Nat) (hn : pids.Nodup) (idx : Nat) (ts : List Task) (P Q : Nat)
    (hP : P ∈ pids) (hQ : Q ∈ pids) :
    load P (rrAssign pids idx ts).2 ≤ load Q (rrAssign pids idx ts).2 + 1
    ∧ (targets (rrAssign pids idx ts).2).length = ts.length
    ∧ ∀ T ∈ targets (rrAssign pids idx ts).2, T ∈ pids :=
  ⟨rrAssign_balance pids hn idx ts P Q hP hQ,
   rrAssign_targets_length pids (List.length_pos_of_mem hP) idx ts,
   rrAssign_targets_mem pids (List.length_pos_of_mem hP) idx ts⟩

example : targets (rrAssign [5, 7, 9] 2 [⟨0, none, 1⟩, ⟨1, none, 1⟩, ⟨2, none, 1⟩, ⟨3, none, 1⟩]).2 = [9, 5, 7, 9] := rfl

/-- **the usage figure of backfilling is exact and returns to zero**: for every history of scheduler
    callbacks (pilots added - also again after removal -, removed, state notifications in any order,
    submissions, task state notifications, duplicates included) in which submissions and notifications
    carry the cores of the task's description (`cf`), every pilot's `used` is the cores of the tasks
    assigned to it minus the cores of those reported finished; a finished task is counted once; so
    when all of a pilot's (distinct) tasks have finished its usage is zero -/
theorem C12_bf_usage (cf : Nat → Nat) (c : BFCfg) (execVal : Nat) (ops : List Op) (hops : ∀ op ∈ ops, OpOK cf op)
    (p : Pilot) (hp : p ∈ (bfRun c execVal {} ops).1.pilots) :
    p.used = sumc cf p.tasks - sumc cf p.done
    ∧ p.done.Nodup ∧ (∀ u ∈ p.done, u ∈ p.tasks)
    ∧ (p.tasks.Nodup → (∀ u ∈ p.tasks, u ∈ p.done) → p.used = 0) := by
  have hinit : BFInv cf ({} : S) := ⟨(fun q hq => by cases hq), (fun t ht => by cases ht)⟩
  have h := (bfRun_inv cf c execVal ops hops hinit).pilots p hp
  exact ⟨h.used, h.nodup, h.sub, fun hn hall => usedInv_zero cf p h hn hall⟩

/-- **conservation (backfilling)**: over any history of callbacks (pilots added with any sizes, removed,
    state notifications in any order, submissions, task state notifications), a uid that is held or
    submitted at most once is forwarded once or still held once: (times forwarded) + (times in the wait
    pool or the early-binding list) = (times held initially) + (times submitted).  The wait pool of
    Backfilling is a dict keyed by uid, hence the uniqueness hypothesis (per uid). -/
theorem C12_bf_conservation (c : BFCfg) (execVal : Nat) (ops : List Op) (s : S) (a : Nat)
    (hu : count a (held s) + count a (allNew ops) ≤ 1) :
    count a (fwdUids (bfRun c execVal s ops).2) + count a (held (bfRun c execVal s ops).1)
      = count a (held s) + count a (allNew ops) :=
  bfRun_conserve c execVal ops a s hu

/-- **forwarded at most once, never lost (backfilling)**: a uid held or submitted exactly once is, after any
    history of callbacks, either forwarded once and held no more, or not forwarded and still held once -/
theorem C12_bf_once (c : BFCfg) (execVal : Nat) (ops : List Op) (s : S) (a : Nat)
    (hu : count a (held s) + count a (allNew ops) = 1) :
    (count a (fwdUids (bfRun c execVal s ops).2) = 1 ∧ count a (held (bfRun c execVal s ops).1) = 0)
    ∨ (count a (fwdUids (bfRun c execVal s ops).2) = 0 ∧ count a (held (bfRun c execVal s ops).1) = 1) := by
  have h := C12_bf_conservation c execVal ops s a (Nat.le_of_eq hu)
  rw [hu] at h
  exact (Nat.add_eq_one_iff.mp h).symm

/-- **overlapping callbacks**: with the code as it is (`Gen.bfWritesPoolInPass`: the pass replaces the wait pool by
    the remainder inside the lock section that read it), a callback another thread handles while the pass hands its
    placed tasks on finds exactly the state the pass leaves - it does what it would do after the pass, so the
    theorems over callback histories cover this interleaving too -/
theorem C12_bf_overlap (c : BFCfg) (execVal : Nat) (s : S) (op : Op) :
    bfStep c execVal (bfVisibleAtHandOver Gen.bfWritesPoolInPass c s) op = bfStep c execVal (bfSchedule c s).1 op := by
  have e : Gen.bfWritesPoolInPass = true := rfl
  rw [e]; rfl

/-- the lock section matters: were the pool written back after the hand-over, a second pass over what is visible
    in between would forward the task the first pass has just placed once more (to the second pilot).
    Pilot states are the values of `_pilot_state_values`: 2 PMGR_LAUNCHING, 3 PMGR_ACTIVE_PENDING, 4 PMGR_ACTIVE (the
    window ⟨4, 4, _⟩), 5 final. -/
def overlapWitness : S :=
  { pilots := [⟨0, .added, some 4, true, 1, 2, 0, [], []⟩, ⟨1, .added, some 4, true, 1, 2, 0, [], []⟩], pids := [0, 1],
    wait := [⟨7, none, 2⟩] }

theorem C12_bf_overlap_witness :
    (bfSchedule ⟨4, 4, 200⟩ overlapWitness).2 = [.fwd 7 0]
    ∧ (bfSchedule ⟨4, 4, 200⟩ (bfVisibleAtHandOver false ⟨4, 4, 200⟩ overlapWitness)).2 = [.fwd 7 1]
    ∧ (bfSchedule ⟨4, 4, 200⟩ (bfVisibleAtHandOver true ⟨4, 4, 200⟩ overlapWitness)).2 = [] := by decide

/-- a pass over a wait pool with an eligible pilot forwards at least the first waiting task -/
theorem C12_bf_pass_progress (c : BFCfg) (s : S) (t : Task) (ts : List Task)
    (hw : s.wait = t :: ts) (he : eligiblePids c s ≠ []) :
    ∃ pid, Out.fwd t.uid pid ∈ (bfSchedule c s).2 := by
  rw [bfSchedule_eq, hw]
  obtain ⟨pid, rest, hel⟩ := exists_cons_of_ne_nil he
  obtain ⟨_, p, hf, hE⟩ := mem_eligiblePids.mp (hel ▸ mem_cons_self)
  have hu : p.used ≤ (p.hwm : Int) := Int.le_of_lt ((bfEligible_iff c p).mp hE).2.2
  obtain ⟨⟨ps1, pid', full⟩, hpl⟩ : ∃ r, bfPlace s.pilots t (eligiblePids c s) = some r := by
    rw [hel, bfPlace, hf]
    exact ⟨_, if_pos hu⟩
  rw [bfLoop_cons_some hpl]
  exact ⟨pid', mem_cons_self⟩

/-- a single-pilot notification is the `pilotState` step the histories of this file range over -/
theorem C12_bulk_single (c : BFCfg) (execVal : Nat) (s : S) (pid : Nat) (v : Option Nat) :
    bfPilotStates true c s [(pid, v)] = bfStep c execVal s (.pilotState pid v) := by
  rw [bfStep_pilotState, bfPilotStates_eq]
  -- `touchAll` of one update is `touchPilot`, the changed pilots are `[pid]` or none
  by_cases h : stateOf s.pilots pid = v
  · simp only [touchAll, h, if_true, bfTrigger, any_nil, Bool.false_eq_true, if_false]
  · simp only [touchAll, h, if_false, bfTrigger, if_true, any_cons, any_nil, Bool.or_false, stateOf_touchPilot]

/-- **C12 for notifications that name several pilots**: with the loop of `Backfilling.update_pilots` as the translator
    reads it from the source (`Gen.bfUpdateAnyEligible`), a notification after which SOME pilot whose state changed is
    inside the window triggers a pass wherever in the notification that pilot stands; if a task waits and an added
    pilot inside the window has room, at least the first waiting task is forwarded -/
theorem C12_bulk_notification_progress (c : BFCfg) (s : S) (ups : List (Nat × Option Nat)) (t : Task) (ts : List Task)
    (hw : s.wait = t :: ts)
    (hch : ∃ pid ∈ (touchAll s.pilots ups).2, inWindow c (stateOf (touchAll s.pilots ups).1 pid) = true)
    (he : eligiblePids c { s with pilots := (touchAll s.pilots ups).1 } ≠ []) :
    ∃ pid, Out.fwd t.uid pid ∈ (bfPilotStates Gen.bfUpdateAnyEligible c s ups).2.1 := by
  have e : Gen.bfUpdateAnyEligible = true := rfl
  have htr : bfTrigger true c (touchAll s.pilots ups).1 (touchAll s.pilots ups).2 = true := by
    simp only [bfTrigger, if_true, List.any_eq_true]
    exact hch
  rw [e, bfPilotStates_eq, if_pos htr]
  exact C12_bf_pass_progress c { s with pilots := (touchAll s.pilots ups).1 } t ts hw he

/-- the position matters to the alternative: were the last updated pilot to decide, the notification
    [pilot 1 becomes ACTIVE, pilot 0 still pending] would leave the task waiting although pilot 1 has room -/
def bulkWitness : S :=
  { pilots := [⟨0, .added, some 2, true, 4, 8, 0, [], []⟩, ⟨1, .added, some 2, true, 4, 8, 0, [], []⟩], pids := [0, 1],
    wait := [⟨7, none, 1⟩] }

theorem C12_bulk_notification_witness :
    (bfPilotStates true  ⟨4, 4, 200⟩ bulkWitness [(1, some 4), (0, some 3)]).2.1 = [.fwd 7 1]
    ∧ (bfPilotStates false ⟨4, 4, 200⟩ bulkWitness [(1, some 4), (0, some 3)]).2.1 = []
    ∧ (bfPilotStates false ⟨4, 4, 200⟩ bulkWitness [(0, some 3), (1, some 4)]).2.1 = [.fwd 7 1] := by decide

/-- **C12 for a notification that names pilots and tasks**: with the order in which `_base_state_cb` digests them as the
    translator reads it from the source (`Gen.bfStatesPilotsFirst`) and the loop of `update_pilots` as read
    (`Gen.bfUpdateAnyEligible`), every pilot a task is forwarded to while the notification is handled - by the pass the
    pilot part triggers or by the pass a finished task triggers - is, in the state the notification itself reports for
    it, inside the backfilling window: no task is bound to a pilot the scheduler has just been told is final -/
theorem C12_mixed_window (c : BFCfg) (execVal : Nat) (s : S) (ups : List (Nat × Option Nat))
    (tus : List (Nat × Option Nat × Nat × Nat)) :
    ∀ p ∈ fwdPids (bfMixed Gen.bfUpdateAnyEligible Gen.bfStatesPilotsFirst c execVal s ups tus).2.1,
      inWindow c (stateOf (touchAll s.pilots ups).1 p) = true := by
  have e : Gen.bfStatesPilotsFirst = true := rfl
  rw [e]
  exact bfMixed_window _ c execVal s ups tus

/-- the order matters: pilot 0 (2 cores, at its high-water mark of 4, task 4 waits) is reported DONE together with its
    task 0 finished (task state value 13, past `execVal` = 10 = AGENT_EXECUTING; 1 core).  Pilots first: nothing is
    forwarded.  Tasks first: the pass the finished task triggers still sees pilot 0 active and binds the waiting task to it. -/
def mixedWitness : S :=
  { pilots := [⟨0, .added, some 4, true, 2, 4, 4, [0, 1, 2, 3], []⟩], pids := [0], wait := [⟨4, none, 1⟩] }

theorem C12_mixed_window_witness :
    (bfMixed true true  ⟨4, 4, 200⟩ 10 mixedWitness [(0, some 5)] [(0, some 0, 13, 1)]).2.1 = []
    ∧ (bfMixed true false ⟨4, 4, 200⟩ 10 mixedWitness [(0, some 5)] [(0, some 0, 13, 1)]).2.1 = [.fwd 4 0] := by decide

end RPVerif.C12
