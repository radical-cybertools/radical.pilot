import RPVerif.Model.Shell
import RPVerif.Model.Script
import RPVerif.Lemmas.Shell

/-!
# C10 — The generated task scripts run what the user described

Arguments and environment values are arbitrary strings (spaces, quotes, globs, empty,
unicode, newlines); the only hypothesis is `NoExp`: no `$` and no backtick, which bash
expands inside double quotes — `ru.sh_quote` documents that it leaves them alone on purpose.
The executable is a non-empty word of plain characters (it is written unquoted).
-/
namespace RPVerif.C10
open List RPVerif.Shell RPVerif.Script

/-- **argument list**: bash reads the command line `get_exec` writes back as exactly the
    executable followed by the described arguments, whatever characters they contain -/
theorem C10_argv (exe : Str) (args : List Str) (hne : exe ≠ []) (hexe : exe.all plainChar = true)
    (hargs : ∀ a ∈ args, NoExp a) :
    words (execLine exe args) = some (exe :: args) := by
  unfold words execLine
  rw [runc_append, runc_word exe hne hexe, Option.bind_some]
  exact finishO_runc_args args hargs .plain exe [] (Or.inl rfl)

theorem key_value_split (k v : Str) (hkeq : '=' ∉ k) :
    (k ++ '=' :: v).takeWhile (· ≠ '=') = k ∧ ((k ++ '=' :: v).dropWhile (· ≠ '=')).drop 1 = v := by
  have hk : k.all (· ≠ '=') = true := by
    rw [all_eq_true]
    intro x hx
    exact decide_eq_true (ne_of_mem_of_not_mem hx hkeq)
  obtain ⟨h1, h2⟩ := takeWhile_dropWhile_append (· ≠ '=') k ('=' :: v) hk (fun c hc => by cases hc; simp)
  rw [h1, h2]
  exact ⟨rfl, rfl⟩

/-- **environment**: `export K="V"` as written by `_get_task_env` assigns exactly V to K -/
theorem C10_env (k v : Str) (hk : k ≠ []) (hkc : k.all plainChar = true) (hkeq : '=' ∉ k) (hv : NoExp v) :
    exported (exportLine k v) = some (k, v) := by
  have hw : words (exportLine k v) = some ["export".toList, k ++ '=' :: v] := by
    have hexp : runc {} "export ".toList = some { mode := .between, cur := [], done := ["export".toList] } := by
      -- `String.toList_ofList`: see `Shell.pilotVar_name`
      rw [String.toList_ofList, String.toList_ofList]
      rfl
    unfold words exportLine
    rw [runc_append, runc_append, hexp, Option.bind_some, runc_word k hk hkc, Option.bind_some,
      runc_cons (stepc_plain '=' (by decide) k _), runc_shQuote v hv, append_assoc]
    rfl
  unfold exported
  rw [hw]
  obtain ⟨h1, h2⟩ := key_value_split k v hkeq
  simp only [if_true, h1, h2]

/-- the hypotheses are met by hostile-looking arguments -/
example : words (execLine "/bin/echo".toList ["a b".toList, [], "x'y".toList, "q\"r".toList, "*".toList, "back\\slash".toList,
                                               "new\nline".toList, "~ ; | & > < ( ) { } [ ] ! #".toList])
    = some ("/bin/echo".toList :: ["a b".toList, [], "x'y".toList, "q\"r".toList, "*".toList, "back\\slash".toList,
                                   "new\nline".toList, "~ ; | & > < ( ) { } [ ] ! #".toList]) := by
  repeat rw [String.toList_ofList]
  exact C10_argv _ _ (by decide) (by decide) (by decide)
example : exported (exportLine "CFG".toList "{\"a\": 1} \\ end\\".toList) = some ("CFG".toList, "{\"a\": 1} \\ end\\".toList) := by
  repeat rw [String.toList_ofList]
  exact C10_env _ _ (by decide) (by decide) (by decide) (by decide)
/-- outside `NoExp` the model declines to answer (bash would expand) -/
example : words (execLine "/bin/echo".toList ["$HOME".toList]) = none := by
  repeat rw [String.toList_ofList]
  rfl

/-! ## the task sandbox reference -/

/-- `RP_TASK_SANDBOX` is written relative to `$RP_PILOT_SANDBOX`; expanding that variable (bash
    takes the longest name after `$`) gives back the sandbox path, for every absolute path -/
theorem C10_sandbox_ref (pwd sbox : Str) (habs : sbox.head? = some '/') :
    expandHead pilotVar pwd (sboxRef true pwd sbox) = sbox := by
  unfold sboxRef
  rw [if_pos rfl]
  split
  · rename_i h
    -- the sandbox is the pilot sandbox followed by nothing or by `/...`, where the variable's name ends
    obtain ⟨rest, rfl, hr⟩ : ∃ rest, sbox = pwd ++ rest ∧ ∀ c, rest.head? = some c → nameChar c = false := by
      rcases h with rfl | h
      · exact ⟨[], (append_nil _).symm, fun c hc => by cases hc⟩
      · refine ⟨'/' :: sbox.drop (pwd ++ ['/']).length, ?_, fun c hc => ?_⟩
        · have hs := isPrefixB_eq _ _ h
          rwa [append_assoc] at hs
        · cases hc
          decide
    rw [drop_left, expandHead_var _ _ _ pilotVar_name hr]
  · cases sbox with
    | nil => cases habs
    | cons c cs =>
      cases habs
      rfl

/-- a plain string prefix comparison (`sboxRef false`) is wrong for a sandbox next to the pilot sandbox -/
example : expandHead pilotVar "/s/pilot.0".toList (sboxRef false "/s/pilot.0".toList "/s/pilot.0_data/t".toList)
            ≠ "/s/pilot.0_data/t".toList := by
  unfold sboxRef pilotVar
  repeat rw [String.toList_ofList]
  decide
example : expandHead pilotVar "/s/pilot.0".toList (sboxRef true "/s/pilot.0".toList "/s/pilot.0_data/t".toList)
            = "/s/pilot.0_data/t".toList :=
  C10_sandbox_ref _ _ (by rw [String.toList_ofList]; rfl)

/-! ## order of execution and exit code -/

/-- a rank runs only entries for all ranks and the commands per-rank entries give for it -/
theorem C10_per_rank (entries : List Entry) (ranks rank c : Nat) (h : c ∈ cmdsFor entries ranks rank) :
    Entry.all c ∈ entries ∨ ∃ m, Entry.perRank m ∈ entries ∧ c ∈ lookupRank rank m := by
  unfold cmdsFor at h
  split at h
  · obtain ⟨e, he, hc⟩ := mem_flatMap.mp h
    cases e with
    | all c' => exact Or.inl (mem_singleton.mp hc ▸ he)
    | perRank m => exact absurd hc not_mem_nil
  · split at h
    · obtain ⟨e, he, hc⟩ := mem_flatMap.mp h
      cases e with
      | all c' => exact Or.inl (mem_singleton.mp hc ▸ he)
      | perRank m => exact Or.inr ⟨m, he, hc⟩
    · exact absurd h not_mem_nil

/-- entries for all ranks run on every rank -/
theorem C10_all_ranks (entries : List Entry) (ranks rank c : Nat) (hr : rank < ranks) (h : Entry.all c ∈ entries) :
    c ∈ cmdsFor entries ranks rank := by
  unfold cmdsFor
  by_cases hall : entries.all Entry.isAll = true
  · rw [if_pos hall]
    exact mem_flatMap.mpr ⟨_, h, mem_singleton_self c⟩
  · rw [if_neg hall, if_pos hr]
    exact mem_flatMap.mpr ⟨_, h, mem_singleton_self c⟩

/-- a per-rank entry runs on its rank -/
theorem C10_own_rank (entries : List Entry) (ranks rank c : Nat) (m : List (Nat × List Nat)) (hr : rank < ranks)
    (h : Entry.perRank m ∈ entries) (hc : c ∈ lookupRank rank m) : c ∈ cmdsFor entries ranks rank := by
  unfold cmdsFor
  have : entries.all Entry.isAll = false := by
    apply Bool.eq_false_iff.mpr
    intro hall
    have := all_eq_true.mp hall _ h
    simp [Entry.isAll] at this
  simp only [this, Bool.false_eq_true, if_false, if_pos hr]
  exact mem_flatMap.mpr ⟨_, h, hc⟩

/-- **order, gating and exit code of the exec script**:
    * all pre commands succeed and all post commands succeed: pre commands, then the executable,
      then the post commands ran, in order, and the exit code is the executable's;
    * a pre command fails: the executable does not run, exit code 1;
    * a post command fails: exit code 1 (the executable ran, once, before). -/
theorem C10_exec (s : ExecScript) (rank : Nat) (o : Nat → Nat) (code : Nat) :
    ((∀ c ∈ cmdsFor s.pre s.ranks rank, o c = 0) → (∀ c ∈ cmdsFor s.post s.ranks rank, o c = 0) →
        runExec s rank o code = ((cmdsFor s.pre s.ranks rank).map Ev.cmd ++ [Ev.exe] ++ (cmdsFor s.post s.ranks rank).map Ev.cmd, code))
    ∧ ((∃ c ∈ cmdsFor s.pre s.ranks rank, o c ≠ 0) →
          ∃ ran, runExec s rank o code = (ran.map Ev.cmd, 1) ∧ ran <+: cmdsFor s.pre s.ranks rank)
    ∧ ((∀ c ∈ cmdsFor s.pre s.ranks rank, o c = 0) → (∃ c ∈ cmdsFor s.post s.ranks rank, o c ≠ 0) →
          ∃ ran, runExec s rank o code = ((cmdsFor s.pre s.ranks rank).map Ev.cmd ++ [Ev.exe] ++ ran.map Ev.cmd, 1)
                 ∧ ran <+: cmdsFor s.post s.ranks rank) := by
  unfold runExec
  refine ⟨fun hpre hpost => ?_, fun hbad => ?_, fun hpre hbad => ?_⟩
  · simp only [runSeq_all_succeed o _ hpre, runSeq_all_succeed o _ hpost]
  · obtain ⟨ran, c, he, hp, -, -⟩ := runSeq_some_fails o _ hbad
    exact ⟨ran ++ [c], by simp only [he], hp⟩
  · obtain ⟨ran, c, he, hp, -, -⟩ := runSeq_some_fails o _ hbad
    exact ⟨ran ++ [c], by simp only [runSeq_all_succeed o _ hpre, he], hp⟩

/-- a failing pre_exec command prevents the executable from running -/
theorem C10_pre_gates_exe (s : ExecScript) (rank : Nat) (o : Nat → Nat) (code : Nat)
    (h : ∃ c ∈ cmdsFor s.pre s.ranks rank, o c ≠ 0) : Ev.exe ∉ (runExec s rank o code).1 := by
  obtain ⟨ran, he, _⟩ := (C10_exec s rank o code).2.1 h
  rw [he]
  intro hmem
  obtain ⟨x, _, hx⟩ := mem_map.mp hmem
  cases hx

/-- **launch script**: a failing pre_launch command prevents the launch; the script's exit code
    is the launcher's unless a pre/post launch command failed -/
theorem C10_launch (l : LaunchScript) (o : Nat → Nat) (codes : List Nat) :
    ((∃ c ∈ l.preLaunch, o c ≠ 0) → ∃ ran : List Nat, runLaunch l o codes = (ran.map LEv.lcmd, 1))
    ∧ ((∀ c ∈ l.preLaunch, o c = 0) → (∀ c ∈ l.postLaunch, o c = 0) →
        (runLaunch l o codes).2 = firstNonZero (runRanks l.exec o codes (List.range l.exec.ranks)).2)
    ∧ ((∀ c ∈ l.preLaunch, o c = 0) → (∃ c ∈ l.postLaunch, o c ≠ 0) → (runLaunch l o codes).2 = 1) := by
  unfold runLaunch
  refine ⟨fun hbad => ?_, fun hpre hpost => ?_, fun hpre hbad => ?_⟩
  · obtain ⟨ran, c, he, -⟩ := runSeq_some_fails o _ hbad
    exact ⟨ran ++ [c], by simp only [he]⟩
  · simp only [runSeq_all_succeed o _ hpre, runSeq_all_succeed o _ hpost]
  · obtain ⟨ran, c, he, -⟩ := runSeq_some_fails o _ hbad
    simp only [runSeq_all_succeed o _ hpre, he]

/-- one failing rank does not change what the other ranks run -/
theorem C10_rank_independent (s : ExecScript) (o : Nat → Nat) (codes codes' : List Nat) (r : Nat)
    (h : codes.getD r 0 = codes'.getD r 0) :
    runExec s r o (codes.getD r 0) = runExec s r o (codes'.getD r 0) := by rw [h]

/-- non-vacuity: a global and per-rank pre commands, rank 1's second command fails -/
example :
    runLaunch { exec := { ranks := 2, pre := [.all 1, .perRank [(0, [2]), (1, [3, 4])]], post := [.all 5] },
                preLaunch := [], postLaunch := [] }
      (fun c => if c = 4 then 3 else 0) [0, 0]
    = ([.rank 0 [.cmd 1, .cmd 2, .exe, .cmd 5], .rank 1 [.cmd 1, .cmd 3, .cmd 4]], 1) := by rfl

/-! ## named environment and described variables -/

/-- **the described variables win over the named environment**: whatever the agent's environment
    is and whatever the named environment un-sets or sets, after the task environment section every
    variable of the task description has the described value -/
theorem C10_env_over_named (named : Option (List Nat × List (Nat × Nat))) (env : List (Nat × Nat))
    (hn : (env.map (·.1)).Nodup) (agentEnv : Env) (k v : Nat) (h : (k, v) ∈ env) :
    envGet (runEnv agentEnv (taskEnvActs named env)) k = some v := by
  unfold taskEnvActs runEnv
  rw [List.foldl_append]
  exact runEnv_exports env hn _ k v h

/-- with the two parts the other way round a variable the named environment un-sets is lost -/
theorem C10_env_order_witness :
    envGet (runEnv [(1, 7)] ([EnvAct.export 1 5] ++ [EnvAct.source [1] []])) 1 = none := by decide

end RPVerif.C10
