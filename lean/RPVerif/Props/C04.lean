import RPVerif.Lemmas.SchedRun
import RPVerif.Lemmas.SchedConserve

/-!
# C04 — The pilot scheduler neither loses nor starves tasks
-/
namespace RPVerif.C04
open RPVerif.Sched List

/-- **placement of incoming tasks loses and duplicates nothing**: every task handed
    to the placement step ends up exactly once either in the event list (started
    or failed) or in the list of tasks to park in the wait pool -/
theorem C04_incoming_conserve (c : Cfg) (ts : List Req) :
    ∀ (s : SchedSt) (toWait : List Req) (evs : List Ev) (a : Nat),
      count a (evUids (incomingOne c s ts toWait evs).2.2) + count a (uids (incomingOne c s ts toWait evs).2.1)
        = count a (evUids evs) + count a (uids toWait) + count a (uids ts) :=
  incomingOne_conserve c ts

/-- draining the queue: a task with `ranks <= 0` is failed once and not scheduled;
    every other task is handed to the placement step exactly once -/
theorem C04_drain_conserve (ms : List Msg) (hs : ∀ m ∈ ms, ∃ ts, m = Msg.sched ts) :
    ∀ (s : SchedSt) (toSched : List Req) (evs : List Ev) (a : Nat),
      count a (evUids (drainIncoming s ms toSched evs).2.2) + count a (uids (drainIncoming s ms toSched evs).2.1)
        = count a (evUids evs) + count a (uids toSched)
          + count a ((ms.flatMap (fun m => match m with | .sched ts => ts | .cancel _ => [])).map (·.uid)) := by
  induction ms with
  | nil => intro s toSched evs a; simp [drainIncoming]
  | cons m ms ih =>
    intro s toSched evs a
    obtain ⟨ts, rfl⟩ := hs m mem_cons_self
    rw [drainIncoming_sched, ih (fun m hm => hs m (mem_cons_of_mem _ hm))]
    have hsplit := count_ranks_split ts a
    simp only [flatMap_cons, map_append, count_append, evUids_append, uids_append, evUids_map_adv]
    simp only [uids] at hsplit ⊢
    omega

/-- **"can never be scheduled"**: a task is failed for lack of resources only when
    nothing holds resources (`_active_cnt = 0`); otherwise it waits -/
theorem C04_never_rule (c : Cfg) (s : SchedSt) (r : Req) (s' : SchedSt)
    (h : scheduleTask c s r = (.ok none, s')) :
    tryAllocation c s r = (if s'.activeCnt = 0 then (.error .runtime, s') else (.ok false, s')) := by
  unfold tryAllocation; rw [h]

/-- `lazy_bisect` always examines the last element first: on an idle pilot a
    waiting task that fits is therefore started (the smallest task of the pool
    by the `ranks*cores*gpus` order is placed last in the list) -/
theorem C04_last_checked_first (c : Cfg) (data : List Req) (s : SchedSt) (fuel : Nat) (r : Req)
    (hr : data[data.length - 1]? = some r) (s' : SchedSt) (hfit : tryAllocation c s r = (.ok true, s')) :
    bisLoop c data (fuel + 1) {} s = bisLoop c data fuel
      { lastGood := some (data.length - 1), good := [data.length - 1] } s' := by
  rw [bisLoop]
  simp only [bisCheck, hr, hfit]
  rfl

/-- The full fairness statement (a task that fits the idle pilot is never failed for
    lack of resources) is FALSE on the current code once an application-placed task
    was released (finding F3): the counter is corrupted, so a task that fits the
    idle pilot is failed as "can never be scheduled".  Witness: task 0 placed by
    the application and released; task 1 (holding) makes `_active_cnt` 0 while it
    runs; task 2 cannot be placed right now and is FAILED although it fits the
    idle pilot. -/
theorem C04_app_slots_witness :
    (runLoop { cpn := 1, gpn := 0, lfsPn := 0, memPn := 0 }
        { nodes := [{ index := 0, cores := [.free], gpus := [], lfs := 0, mem := 0 }] } true
        [{ incoming := [.sched [{ uid := 0, ranks := 1, cpr := 1, gpr := 0, lfs := 0, mem := 0,
                                   app := some [{ node := 0, cores := [0], gpus := [], lfs := 0, mem := 0 }] }]],
           unsched := [[0]] },
         { incoming := [.sched [{ uid := 1, ranks := 1, cpr := 1, gpr := 0, lfs := 0, mem := 0 }]] },
         { incoming := [.sched [{ uid := 2, ranks := 1, cpr := 1, gpr := 0, lfs := 0, mem := 0 }]] }] []).2.2
      = [[.adv 0 "AGENT_EXECUTING_PENDING"], [.adv 1 "AGENT_EXECUTING_PENDING"], [.adv 2 "FAILED"]] := by
  decide

/-! ## whole histories of the scheduling loop -/

/-- **the counter the "can never be scheduled" rule reads is exact after every history**: it is the
    number of placements the scheduler made and that were not released - so the rule (`C04_never_rule`)
    fires only when no scheduler-placed task holds anything -/
theorem C04_history_counter (c : Cfg) (nodes0 : List NodeSt) (its : List Iter) (hw : NodesWF nodes0) (hnn : NonNeg nodes0)
    (hok : RunOK c { nodes := nodes0 } true its) :
    (runLoop c { nodes := nodes0 } true its []).1.activeCnt = ((runLoop c { nodes := nodes0 } true its []).1.held.length : Int) :=
  (runLoop_sinv c nodes0 its hw hnn hok).2


/-! ## fairness: what a pass over the wait pool does with the tasks that wait -/

/-- **a task waiting alone**: a pass over the wait pool tries the task once; it is started if it can be placed
    now, failed if it cannot be placed although nothing holds resources (it does not fit even the idle pilot),
    and keeps waiting otherwise -/
theorem C04_alone (c : Cfg) (s : SchedSt) (p : Int) (r : Req) (hw : s.waitpool = [(p, [r])]) (henv : envOk s.envs r = true) :
    (scheduleWaitpool c s).2.1
      = (match (tryAllocation c s r).1 with
         | .ok true  => [Ev.adv r.uid "AGENT_EXECUTING_PENDING"]
         | .ok false => []
         | .error _  => [Ev.adv r.uid "FAILED"])
    ∧ (scheduleWaitpool c s).1.waitpool
      = (match (tryAllocation c s r).1 with
         | .ok false => [(p, [r])]
         | _         => [(p, [])]) := by
  have hpool : poolOf s.waitpool p = [r] := by rw [hw, poolOf_cons, if_pos rfl]
  have hwp := tryAllocation_wp c s r
  rw [scheduleWaitpool_eq, hw, prios_single, foldl_cons, foldl_nil]
  simp only [wpStep]
  rw [waitpoolOne_single c s p r hpool henv]
  rw [hw] at hwp
  generalize tryAllocation c s r = ta at hwp ⊢
  obtain ⟨res, s'⟩ := ta
  -- `_try_allocation` left the wait pool alone, so the pool of `p` is rewritten in `[(p, [r])]`
  have hset : ∀ l, setPool s'.waitpool p l = [(p, l)] := fun l => by rw [hwp, setPool_single]
  rcases res with _ | _ | _ <;> exact ⟨rfl, hset _⟩

/-- **priorities**: two tasks wait in pools of different priority and a release lets only the first one
    tried run - that is the one of the higher priority, whatever the order in which the pools were created;
    the other one keeps waiting -/
theorem C04_priority (c : Cfg) (s : SchedSt) (p1 p2 : Int) (r1 r2 : Req) (hp : p2 < p1)
    (hw : s.waitpool = [(p1, [r1]), (p2, [r2])] ∨ s.waitpool = [(p2, [r2]), (p1, [r1])])
    (h1 : envOk s.envs r1 = true) (h2 : envOk s.envs r2 = true)
    (s1 s2 : SchedSt) (hfit : tryAllocation c s r1 = (.ok true, s1)) (hno : tryAllocation c s1 r2 = (.ok false, s2))
    (henvs : s1.envs = s.envs) :
    (scheduleWaitpool c s).2.1 = [Ev.adv r1.uid "AGENT_EXECUTING_PENDING"]
    ∧ poolOf (scheduleWaitpool c s).1.waitpool p2 = [r2] ∧ poolOf (scheduleWaitpool c s).1.waitpool p1 = [] := by
  have hwp1 : s1.waitpool = s.waitpool := by have := tryAllocation_wp c s r1; rw [hfit] at this; exact this
  have hne : p1 ≠ p2 := (Int.ne_of_lt hp).symm
  have hne' : p2 ≠ p1 := Int.ne_of_lt hp
  have hnlt : ¬ p1 < p2 := Int.not_lt.mpr (Int.le_of_lt hp)
  have hpools : prios s.waitpool = [p1, p2] ∧ poolOf s.waitpool p1 = [r1] ∧ poolOf s.waitpool p2 = [r2] := by
    rcases hw with hw | hw
    · rw [hw, poolOf_cons, if_pos rfl, poolOf_cons, if_neg hne, poolOf_cons, if_pos rfl]
      exact ⟨by simp [prios, hp, hnlt, hne'], rfl, rfl⟩
    · rw [hw, poolOf_cons, if_neg hne', poolOf_cons, if_pos rfl, poolOf_cons, if_pos rfl]
      exact ⟨by simp [prios, hp, hnlt, hne], rfl, rfl⟩
  obtain ⟨hpr, hpool1, hpool2⟩ := hpools
  rw [scheduleWaitpool_eq, hpr]
  simp only [List.foldl_cons, List.foldl_nil, wpStep]
  rw [waitpoolOne_single c s p1 r1 hpool1 h1, hfit]
  have hp2' : poolOf ({ s1 with waitpool := setPool s1.waitpool p1 [] } : SchedSt).waitpool p2 = [r2] := by
    show poolOf (setPool s1.waitpool p1 []) p2 = [r2]
    rw [poolOf_setPool_other _ _ _ _ hne', hwp1]; exact hpool2
  have he2' : envOk ({ s1 with waitpool := setPool s1.waitpool p1 [] } : SchedSt).envs r2 = true := by
    show envOk s1.envs r2 = true
    rw [henvs]; exact h2
  rw [waitpoolOne_single c _ p2 r2 hp2' he2', tryAllocation_frame, hno]
  -- `simp only` normalises the events `[] ++ [_] ++ []` and so closes the first conjunct
  simp only [List.nil_append, List.append_nil]
  refine ⟨trivial, ?_, ?_⟩
  · rw [poolOf_setPool_same]
  · rw [poolOf_setPool_other _ _ _ _ hne, poolOf_setPool_same]

/-- **as soon as resources are released**: an iteration in which `_unschedule_completed` takes anything off
    its queue leaves the `resources` flag set ... -/
theorem C04_flag_after_release (c : Cfg) (s : SchedSt) (res : Bool) (it : Iter)
    (h : drained (loopIterA c s res it).1 it.unsched ≠ []) : (loopIter c s res it).2.1 = true := by
  unfold loopIter
  generalize loopIterA c s res it = a at h ⊢
  obtain ⟨s2, res1, evs⟩ := a
  dsimp only at h ⊢
  fun_cases unscheduleCompleted s2 it.unsched
  case case1 rest hd => exact absurd (by unfold drained; rw [hd]) h
  -- something released: the answer `True` sets the flag
  case case2 uids rest hd hne => cases res1 <;> rfl

/-- ... and with the flag set the next iteration starts with a pass over the wait pool (`C04_alone`,
    `C04_priority` say what that pass does), before anything that arrives in that iteration is placed -/
theorem C04_pass_runs (c : Cfg) (s : SchedSt) (it : Iter) :
    (loopIterA c s true it).2.2
      = (scheduleWaitpool c { s with cancel := s.cancel ++ it.marks, envs := s.envs ++ it.envs }).2.1
        ++ (scheduleIncoming c (scheduleWaitpool c { s with cancel := s.cancel ++ it.marks, envs := s.envs ++ it.envs }).1
              it.incoming).2.1 := by
  unfold loopIterA
  simp only [if_true]

/-! ## conservation over whole histories -/

/-- **every task is accounted for, exactly once, at every moment**: for every configuration, every
    history of loop iterations (arrivals in any order and batching, priorities, named environments,
    cancel messages and cancel marks wherever they fall, completions in any order) and every uid `u`
    that is handed to the scheduler at most once in that history, the number of times `u` was reported
    (started, failed or canceled) plus the number of times it sits in the wait pool equals the number
    of times it was handed in.  Nothing is assumed about the placement routine: `lazy_bisect` classifies
    every element of a pool exactly once and comes to its end whatever its check answers (`Lemmas/BisectAll.lean`). -/
theorem C04_history_conserve (c : Cfg) (s0 : SchedSt) (h0 : s0.waitpool = []) (res : Bool) (its : List Iter) (u : Nat)
    (hu : handed its u ≤ 1) :
    count u (evUids (runLoop c s0 res its []).2.2.flatten) + waiting (runLoop c s0 res its []).1.waitpool u
      = handed its u :=
  runLoop_ledger c s0 h0 res its u hu

/-- a task is reported as started, failed or canceled at most once -/
theorem C04_reported_at_most_once (c : Cfg) (s0 : SchedSt) (h0 : s0.waitpool = []) (res : Bool) (its : List Iter) (u : Nat)
    (hu : handed its u ≤ 1) : count u (evUids (runLoop c s0 res its []).2.2.flatten) ≤ 1 := by
  have := C04_history_conserve c s0 h0 res its u hu
  exact Nat.le_trans (Nat.le_add_right _ _) (this ▸ hu)

/-- a task that was handed in is either reported (once) or waiting (once), never both, never neither -/
theorem C04_exactly_one_place (c : Cfg) (s0 : SchedSt) (h0 : s0.waitpool = []) (res : Bool) (its : List Iter) (u : Nat)
    (hu : handed its u = 1) :
    (count u (evUids (runLoop c s0 res its []).2.2.flatten) = 1 ∧ waiting (runLoop c s0 res its []).1.waitpool u = 0)
    ∨ (count u (evUids (runLoop c s0 res its []).2.2.flatten) = 0 ∧ waiting (runLoop c s0 res its []).1.waitpool u = 1) :=
  runLoop_one_place c s0 h0 res its u hu

/-- nothing is invented: a uid that was never handed in is never reported and never waits -/
theorem C04_nothing_invented (c : Cfg) (s0 : SchedSt) (h0 : s0.waitpool = []) (res : Bool) (its : List Iter) (u : Nat)
    (hu : handed its u = 0) :
    count u (evUids (runLoop c s0 res its []).2.2.flatten) = 0 ∧ waiting (runLoop c s0 res its []).1.waitpool u = 0 := by
  have := C04_history_conserve c s0 h0 res its u (hu ▸ Nat.zero_le 1)
  exact Nat.add_eq_zero_iff.mp (this.trans hu)

/-- `lazy_bisect` (as the scheduler calls it) returns every element of the pool in exactly one of its
    three lists, whatever the placement routine answers -/
theorem C04_bisect_partition (c : Cfg) (data : List Req) (s : SchedSt) (u : Nat) :
    count u (uids (pickIdx data (lazyBisect c data s).1.good)) + count u (uids (pickIdx data (lazyBisect c data s).1.bad))
      + count u (uids (pickIdx data (lazyBisect c data s).1.fail)) = count u (uids data) :=
  lazyBisect_lists c data s u

/-- the hypotheses are met and both outcomes occur: on one core, task 0 starts, task 1 waits, task 2
    (ranks 0) is failed, and a cancel message takes task 1 out of the pool -/
example :
    let c : Cfg := { cpn := 1, gpn := 0, lfsPn := 0, memPn := 0 }
    let s0 : SchedSt := { nodes := [{ index := 0, cores := [.free], gpus := [], lfs := 0, mem := 0 }] }
    let its : List Iter :=
      [{ incoming := [.sched [{ uid := 0, ranks := 1, cpr := 1, gpr := 0, lfs := 0, mem := 0 },
                               { uid := 1, ranks := 1, cpr := 1, gpr := 0, lfs := 0, mem := 0 },
                               { uid := 2, ranks := 0, cpr := 1, gpr := 0, lfs := 0, mem := 0 }]] }]
    handed its 0 = 1 ∧ handed its 1 = 1 ∧ handed its 2 = 1
    ∧ waiting (runLoop c s0 true its []).1.waitpool 1 = 1
    ∧ count 0 (evUids (runLoop c s0 true its []).2.2.flatten) = 1
    ∧ count 2 (evUids (runLoop c s0 true its []).2.2.flatten) = 1
    ∧ waiting (runLoop c s0 true (its ++ [{ incoming := [.cancel [1]] }]) []).1.waitpool 1 = 0
    ∧ count 1 (evUids (runLoop c s0 true (its ++ [{ incoming := [.cancel [1]] }]) []).2.2.flatten) = 1 := by
  decide

end RPVerif.C04
