import RPVerif.Lemmas.StatesReach
import RPVerif.Gen.States
import RPVerif.Model.Callbacks

/-!
# C06 — Applications observe the linear task state model

`N` is the number of non-final task states; it and the names are read from the
table regenerated from `states.py` on every run (`taskTable_ok`).
-/
namespace RPVerif.C06
open RPVerif.States

/-- number of non-final task states according to `states.py` -/
def N : Nat := Gen.taskStateValues.length - 3

/-- the numeric table of `states.py` has the shape the model assumes:
    non-final states are numbered 0,1,…,N-1 in order, without gaps or repeats,
    and exactly DONE, FAILED, CANCELED share the final value N. -/
theorem taskTable_ok :
    (Gen.taskStateValues.take N).map (·.2) = List.range N
    ∧ Gen.taskStateValues.drop N = [("DONE", N), ("FAILED", N), ("CANCELED", N)]
    ∧ (Gen.taskStateValues.map (·.1)).Nodup
    ∧ Gen.finalStates = ["DONE", "FAILED", "CANCELED"]
    ∧ Gen.initialStates = ["NEW"] ∧ Gen.taskStateValues.head? = some ("NEW", 0)
    ∧ Gen.noneValue = -1 := by
  decide +kernel

/-- the progress helper never raises: a contradictory final state is discarded -/
theorem C06_progress_total (c t : St) : ∃ r, taskProgress N c t = .ok r := by
  rcases taskProgress_cases N c t with ⟨s, h, _⟩ | ⟨_, h⟩
  · exact ⟨_, h⟩
  · exact ⟨_, h⟩

/-- **no exception escapes `_update_tasks`**: every batch is processed to its end,
    whatever late, duplicated, out-of-order or contradictory notifications it holds -/
theorem C06_batch_completes (ts : Tasks) (b : List Upd) (hn : (uids ts).Nodup)
    (hw : ∀ u ∈ b, u.state.WF N) : (updateTasks N ts b).2.2 = none :=
  (updateTasksAux_proj b hw ts []).1

/-- **batch independence (full statement)**: inserting an arbitrary notification
    `d` for task `d.uid` anywhere into a batch changes nothing for any other task:
    same resulting state, same callbacks, in the same order. -/
theorem C06_batch_independence (ts : Tasks) (b₁ b₂ : List Upd) (d : Upd)
    (hn : (uids ts).Nodup) (hw : ∀ u ∈ b₁ ++ d :: b₂, u.state.WF N)
    (t : Task) (ht : t ∈ ts) (hne : d.uid ≠ t.uid) :
    (updateTasks N ts (b₁ ++ d :: b₂)).1.find? (fun x => x.uid = t.uid)
      = (updateTasks N ts (b₁ ++ b₂)).1.find? (fun x => x.uid = t.uid)
    ∧ (updateTasks N ts (b₁ ++ d :: b₂)).2.1.filter (fun p => p.1 = t.uid)
      = (updateTasks N ts (b₁ ++ b₂)).2.1.filter (fun p => p.1 = t.uid) := by
  have hw1 : ∀ u ∈ b₁, u.state.WF N := fun u hu => hw u (List.mem_append_left _ hu)
  have hw2 : ∀ u ∈ b₁ ++ b₂, u.state.WF N := by
    intro u hu
    rcases List.mem_append.mp hu with h | h
    · exact hw u (List.mem_append_left _ h)
    · exact hw u (List.mem_append_right _ (List.mem_cons_of_mem _ h))
  have ⟨a1, a2⟩ := (updateTasksAux_proj (N := N) _ hw ts []).2 t (find_of_mem hn ht)
  have ⟨b1, b2⟩ := (updateTasksAux_proj (N := N) _ hw2 ts []).2 t (find_of_mem hn ht)
  unfold updateTasks
  rw [a1, a2, b1, b2, foldOne_skip N t b₁ hw1 d b₂ hne]
  exact ⟨rfl, rfl⟩

/-- **the callbacks an application sees for one task, over any history of
    notification batches, form a chain of observable steps** from the task's
    state: each announces the next state in order (skipped states filled in) or
    FAILED/CANCELED, never a step out of a final state; the task's state after
    the history is the last state announced. -/
theorem C06_linear (ts : Tasks) (bs : List (List Upd)) (hn : (uids ts).Nodup)
    (hw : ∀ b ∈ bs, ∀ u ∈ b, u.state.WF N) (t : Task) (ht : t ∈ ts) :
    ∃ t' cbs,
      (runBatches N ts bs).1.find? (fun x => x.uid = t.uid) = some t'
      ∧ (runBatches N ts bs).2.filter (fun p => p.1 = t.uid) = cbs.map (fun s => (t.uid, s))
      ∧ Chain N t.state cbs ∧ t'.state = lastOf t.state cbs := by
  have ⟨p1, p2⟩ := runBatches_proj (N := N) bs hw ts t (find_of_mem hn ht)
  have ⟨c, l, _, _⟩ := foldOne_spec (N := N) bs.flatten (List.forall_mem_flatten.mpr hw) t
  exact ⟨_, _, p1, p2, c, l⟩

/-- along such a chain the numeric state values strictly increase: no state is
    announced twice and none is announced after a later one -/
theorem C06_monotone (s : St) (cbs : List St) (hs : s.WF N) (h : Chain N s cbs) :
    List.Pairwise (· < ·) ((s :: cbs).map (St.val N)) :=
  chain_increasing s cbs hs h

/-- **final states are sticky**: once a task is final, no history of batches
    changes its state or triggers another callback for it -/
theorem C06_final_sticky (ts : Tasks) (bs : List (List Upd)) (hn : (uids ts).Nodup)
    (hw : ∀ b ∈ bs, ∀ u ∈ b, u.state.WF N) (t : Task) (ht : t ∈ ts)
    (hf : t.state.isFinal = true) :
    (∃ t', (runBatches N ts bs).1.find? (fun x => x.uid = t.uid) = some t' ∧ t'.state = t.state)
    ∧ (runBatches N ts bs).2.filter (fun p => p.1 = t.uid) = [] := by
  have ⟨t', cbs, h1, h2, c, l⟩ := C06_linear ts bs hn hw t ht
  rw [chain_of_final t.state cbs hf c] at h2 l
  exact ⟨⟨t', h1, l⟩, h2⟩

/-! non-vacuity: concrete histories meeting the hypotheses, with late, duplicated
    and contradictory notifications (these are tests, not the unbounded claim) -/

example : N = 15 := rfl

example :
    let ts : Tasks := [⟨0, .nf 0, none, none⟩, ⟨1, .done, none, none⟩, ⟨2, .canceled, none, none⟩]
    (runBatches N ts [[⟨1, .failed, none⟩, ⟨0, .nf 3, none⟩, ⟨2, .done, none⟩, ⟨0, .nf 1, none⟩],
                      [⟨0, .failed, none⟩, ⟨0, .done, none⟩, ⟨7, .done, none⟩]])
      = ([⟨0, .failed, none, none⟩, ⟨1, .done, none, none⟩, ⟨2, .canceled, none, none⟩],
         [(0, .nf 1), (0, .nf 2), (0, .nf 3), (0, .failed)]) := by
  decide

example : Chain N (.nf 0) [.nf 1, .nf 2, .canceled] := by
  simp [Chain, Step, St.isFinal, St.WF, St.val, St.isFC, N, Gen.taskStateValues]

/-! ## callbacks that use the registry while a notification is delivered -/

open RPVerif.Callbacks

theorem C06_task_cb_snapshot : Gen.taskCbSnapshot = true := rfl

/-- **every callback registered when a notification arrives is called exactly once, in order, and no
    exception escapes the delivery - whatever the callbacks do to the registry meanwhile** (a one-shot
    callback taking itself out, a callback installing another one).  Holds because `_task_cb` walks a list
    made before the first callback runs (`C06_task_cb_snapshot`, read from the source). -/
theorem C06_registry_use_harmless (reg : List Nat) (act : Nat → Edit) :
    (deliver Gen.taskCbSnapshot reg act).1 = reg ∧ (deliver Gen.taskCbSnapshot reg act).2.2 = false := by
  rw [C06_task_cb_snapshot]
  exact ⟨rfl, rfl⟩

/-- the order matters (test): walking the live registry, a one-shot callback that takes itself out ends
    the delivery - the callbacks after it never hear of the state -/
example : deliver false [1, 2, 3] (fun id => if id = 1 then .unregister 1 else .nothing) = ([1], [2, 3], true) := rfl
example : deliver true [1, 2, 3] (fun id => if id = 1 then .unregister 1 else .nothing) = ([1, 2, 3], [2, 3], false) := rfl

/-- **C06, no notification is ignored**: with `_state_sub_cb` handing every task notification of a batch to
    `_update_tasks` (`Gen.stateSubPassesAll`, read from the source), after ANY batch - late, duplicated, out-of-order
    notifications, other tasks in between - a known task is at least as far as EVERY notification of the batch that named
    it (values of the state table; DONE, FAILED and CANCELED share the top value), in particular final once a final state
    was reported for it, wherever in the batch that notification stood -/
theorem C06_most_advanced (ts : Tasks) (b : List Upd) (hn : (uids ts).Nodup) (hw : ∀ u ∈ b, u.state.WF N)
    (t : Task) (ht : t ∈ ts) (htw : t.state.WF N) (u : Upd) (hu : u ∈ b) (hid : u.uid = t.uid) :
    ∃ t', (updateTasks N ts (subBatch Gen.stateSubPassesAll b)).1.find? (fun x => x.uid = t.uid) = some t'
      ∧ u.state.val N ≤ t'.state.val N
      ∧ (u.state.isFinal = true → t'.state.WF N → t'.state.isFinal = true) := by
  have e : Gen.stateSubPassesAll = true := by decide
  rw [e]
  simp only [subBatch, if_true]
  have hp := ((updateTasksAux_proj (N := N) b hw ts []).2 t (find_of_mem hn ht)).1
  have hge := foldOne_reaches (N := N) b hw t u hu hid
  refine ⟨(foldOne N t b).1, hp, hge, fun hf hwf => ?_⟩
  -- a non-final state has a value below the top one
  rw [val_final (N := N) hf] at hge
  cases hfin : (foldOne N t b).1.state.isFinal with
  | true => rfl
  | false => exact absurd (val_lt_of_nonfinal hwf hfin) (Nat.not_lt_of_le hge)

/-- the hand-over matters: were only the last notification per task handed on, the batch [task 0 DONE, task 0 in state 13]
    (a late notification behind the one that overtook it) would leave the task in state 13 and its DONE never seen -/
theorem C06_most_advanced_witness :
    ((updateTasks 15 [⟨0, .nf 12, none, none⟩] (subBatch false [⟨0, .done, none⟩, ⟨0, .nf 13, none⟩])).1.map (·.state)) = [.nf 13]
    ∧ ((updateTasks 15 [⟨0, .nf 12, none, none⟩] (subBatch true [⟨0, .done, none⟩, ⟨0, .nf 13, none⟩])).1.map (·.state)) = [.done] := by
  decide

end RPVerif.C06
