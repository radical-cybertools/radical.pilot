import RPVerif.Model.Cancel
import RPVerif.Lemmas.Exec
import RPVerif.Lemmas.Sched
import RPVerif.Lemmas.Pool
import RPVerif.Props.C07
import RPVerif.Lemmas.SchedCancel
import RPVerif.Lemmas.ExecFinished

/-!
# C08 — Cancel stops the named tasks and nothing else
-/
namespace RPVerif.C08
open List

/-! ## (a) the request, and the filter at a component's intake -/
open RPVerif.Cancel in
theorem filterBulk_cons_pos {cl : List Nat} {x : Nat} (xs : List Nat) (h : x ∈ cl) :
    filterBulk cl (x :: xs)
      = ((filterBulk (cl.erase x) xs).1, x :: (filterBulk (cl.erase x) xs).2.1, (filterBulk (cl.erase x) xs).2.2) := by
  rw [filterBulk, if_pos h]

open RPVerif.Cancel in
theorem filterBulk_cons_neg {cl : List Nat} {x : Nat} (xs : List Nat) (h : x ∉ cl) :
    filterBulk cl (x :: xs) = (x :: (filterBulk cl xs).1, (filterBulk cl xs).2.1, (filterBulk cl xs).2.2) := by
  rw [filterBulk, if_neg h]

open RPVerif.Cancel in
/-- **what the filter does, uid by uid**: of the occurrences of `t` in a bulk, as many are canceled as the cancel
    list names (one request cancels one occurrence), the others are passed on -/
theorem filterBulk_count (ts : List Nat) (t : Nat) : ∀ cl : List Nat,
    count t (filterBulk cl ts).1 = count t ts - count t cl
    ∧ count t (filterBulk cl ts).2.1 = min (count t ts) (count t cl) := by
  induction ts with
  | nil => intro cl; simp [filterBulk]
  | cons x xs ih =>
    intro cl
    by_cases h : x ∈ cl
    · obtain ⟨i1, i2⟩ := ih (cl.erase x)
      rw [filterBulk_cons_pos xs h]
      by_cases hxt : x = t
      · subst hxt
        have hb : count x cl = count x cl - 1 + 1 := (Nat.sub_add_cancel (count_pos_iff.mpr h)).symm
        rw [count_erase_self] at i1 i2
        rw [count_cons_self, count_cons_self, hb, Nat.add_sub_add_right, Nat.add_min_add_right]
        exact ⟨i1, congrArg (· + 1) i2⟩
      · rw [count_erase_of_ne fun e => hxt e.symm] at i1 i2
        rw [count_cons_of_ne hxt, count_cons_of_ne hxt]
        exact ⟨i1, i2⟩
    · obtain ⟨i1, i2⟩ := ih cl
      rw [filterBulk_cons_neg xs h]
      by_cases hxt : x = t
      · subst hxt
        rw [count_eq_zero.mpr h] at i1 i2 ⊢
        rw [count_cons_self, count_cons_self, i1, i2]
        exact ⟨rfl, by rw [Nat.min_zero, Nat.min_zero]⟩
      · rw [count_cons_of_ne hxt, count_cons_of_ne hxt]
        exact ⟨i1, i2⟩

open RPVerif.Cancel in
theorem filterBulk_nil (ts : List Nat) : filterBulk [] ts = (ts, [], []) := by
  induction ts with
  | nil => rfl
  | cons x xs ih => rw [filterBulk_cons_neg xs not_mem_nil, ih]

open RPVerif.Cancel in
/-- the test for an empty cancel list in `work_cb` only saves the pass over the bulk -/
theorem intake_eq_filterBulk (cl things : List Nat) : intake cl things = filterBulk cl things := by
  unfold intake
  by_cases h : cl = []
  · rw [if_pos h, h, filterBulk_nil]
  · rw [if_neg h]

/-- **the client-side request names exactly the tasks the caller named**: for a single uid and for
    a non-empty list the published command carries those uids and no other - whatever the states of
    the named tasks, and whatever other tasks the manager knows -/
theorem C08_request_names (known : List Nat) :
    (∀ u, RPVerif.Cancel.request known (.one u) = [u])
    ∧ (∀ us, us ≠ [] → RPVerif.Cancel.request known (.many us) = us)
    ∧ RPVerif.Cancel.request known .none = known ∧ RPVerif.Cancel.request known (.many []) = known := by
  refine ⟨fun _ => rfl, ?_, rfl, rfl⟩
  intro us h
  cases us with
  | nil => exact absurd rfl h
  | cons a as => rfl

/-- a task that is not named by the caller is not named by the command (bystanders stay out of
    every component's cancel list), for a request that names at least one task -/
theorem C08_request_bystander (known : List Nat) (a : RPVerif.Cancel.Arg) (t : Nat)
    (hne : a ≠ .none ∧ a ≠ .many []) (ht : match a with | .one u => t ≠ u | .many us => t ∉ us | .none => True) :
    t ∉ RPVerif.Cancel.request known a := by
  cases a with
  | none => exact absurd rfl hne.1
  | one u => simpa [RPVerif.Cancel.request] using ht
  | many us =>
    cases us with
    | nil => exact absurd rfl hne.2
    | cons x xs => simpa [RPVerif.Cancel.request] using ht

/-- **C08 (intake filter)**: of a bulk arriving at a component after a cancel
    request, exactly the named tasks are advanced to CANCELED instead of being
    processed, every other task of the bulk is processed unchanged -/
theorem C08_intake (cl uids things : List Nat) (hu : ∀ t, count t things ≤ 1) :
    let r := RPVerif.Cancel.intake (RPVerif.Cancel.cancelCmd cl uids) things
    (∀ t ∈ things, t ∈ uids → t ∉ r.1 ∧ t ∈ r.2.1)
    ∧ (∀ t ∈ things, t ∉ cl → t ∉ uids → t ∈ r.1 ∧ t ∉ r.2.1) := by
  intro r
  have hr : r = RPVerif.Cancel.filterBulk (cl ++ uids) things := intake_eq_filterBulk _ things
  rw [hr]
  constructor
  · intro t ht htu
    obtain ⟨k1, k2⟩ := filterBulk_count things t (cl ++ uids)
    have h1 : count t things = 1 := Nat.le_antisymm (hu t) (count_pos_iff.mpr ht)
    have h2 : 1 ≤ count t (cl ++ uids) := count_pos_iff.mpr (mem_append_right _ htu)
    rw [h1] at k1 k2
    rw [Nat.min_eq_left h2] at k2
    exact ⟨count_eq_zero.mp (k1.trans (Nat.sub_eq_zero_of_le h2)), count_pos_iff.mp (k2 ▸ Nat.one_pos)⟩
  · intro t ht hc hu'
    obtain ⟨k1, k2⟩ := filterBulk_count things t (cl ++ uids)
    have h0 : count t (cl ++ uids) = 0 := count_eq_zero.mpr fun h => (mem_append.mp h).elim hc hu'
    rw [h0] at k1 k2
    exact ⟨count_pos_iff.mp (k1 ▸ count_pos_iff.mpr ht), count_eq_zero.mp (k2.trans (Nat.min_zero _))⟩

/-! ## (b) the executor -/
open RPVerif.Exec in
/-- choices that can start a cancellation -/
def isCancelChoice : Choice → Bool
  | .cancelReq | .timeout => true
  | _ => false

open RPVerif.Exec in
theorem isCancelChoice_eq_isReq (c : Choice) : isCancelChoice c = isReq c := by
  cases c <;> rfl

open RPVerif.Exec in
/-- **no task is canceled unless a cancel request or a run-time limit asked for it** -/
theorem C08_no_spurious_cancel (cs : List Choice) (hn : ∀ c ∈ cs, isCancelChoice c = false) :
    (run {} cs).outcome ≠ some .canceled ∧ (run {} cs).canceledPub = 0 := by
  have hq : ∀ c ∈ cs, isReq c = false := fun c hc => isCancelChoice_eq_isReq c ▸ hn c hc
  -- `Quiet` implies unmarked, and only a marked task is advanced to CANCELED
  have := run_induction (motive := fun s => Quiet s ∧ s.canceledPub = 0) cs ⟨quiet_init, rfl⟩
    fun s h c hc => ⟨quiet_step s c (hq c hc) h.1, (step_canceledPub s c h.1.noMark).trans h.2⟩
  exact ⟨this.1.notC, this.2⟩

open RPVerif.Exec in
/-- whatever the interleaving of the cancel request with the watcher and with the
    process exiting, the canceled task is finished exactly once and its resources
    are released exactly once (instances of C07 for schedules with requests) -/
theorem C08_cancel_once (cs : List Choice) (hd : RPVerif.C07.Done (run {} cs)) :
    (run {} cs).handed + (run {} cs).failed = 1 ∧ (run {} cs).unsched = 1 :=
  (RPVerif.C07.C07_complete cs hd).2

open RPVerif.Exec in
/-- **a task that had already finished is not canceled**: for every schedule of the executor's threads, if the process of a
    task has exited by itself before any cancel request or timeout reached the executor, then whatever follows
    - requests, timeouts, any number of cancel_task invocations on any thread, in any interleaving with the
    watcher - the task never ends CANCELED (every cancel_task invocation stops at its "already done" test; the
    watcher hands the task on with the process's own outcome) -/
theorem C08_finished_never_canceled (pre post : List Choice) (hq : ∀ c ∈ pre, isReq c = false)
    (he : (run {} pre).proc.isExited = true) :
    (run {} (pre ++ post)).outcome ≠ some .canceled := by
  have h1 := finished_of_quiet _ (quiet_run {} pre hq quiet_init) he
  rw [show run {} (pre ++ post) = run (run {} pre) post from List.foldl_append]
  exact (finished_run _ post h1).notC

open RPVerif.Exec in
/-- test: exit 0, then a cancel request and its cancel_task run to the end - the outcome is DONE -/
example : (run {} [.intake, .intake, .intake, .intake, .exit 0, .cancelReq, .cancel 0, .cancel 0, .cancel 0,
                   .watcher, .watcher, .watcher, .watcher, .watcher, .watcher]).outcome = some .done := rfl

/-! ## (c) the scheduler -/
open RPVerif.Sched in
/-- a cancel message removes from the wait pool only entries with the named uid:
    every waiting task with another uid stays in the pool of its priority
    (bystanders are not dropped), and what is reported CANCELED is the named task -/
theorem C08_waitpool_cancel (wp : List (Int × List Req)) (uid : Nat) :
    (∀ e ∈ wp, ∀ r ∈ e.2, r.uid ≠ uid → ∃ e' ∈ (removeFromPools wp uid).1, e'.1 = e.1 ∧ r ∈ e'.2)
    ∧ (∀ t, (removeFromPools wp uid).2 = some t → t.uid = uid)
    ∧ (∀ e' ∈ (removeFromPools wp uid).1, ∀ r ∈ e'.2, ∃ e ∈ wp, e.1 = e'.1 ∧ r ∈ e.2) := by
  obtain ⟨P, h⟩ := removeFromPools_map wp uid
  rw [h]
  refine ⟨?_, fun t ht => removeFromPools_uid wp uid t ht, ?_⟩
  · intro e he r hr hne
    refine ⟨_, mem_map.mpr ⟨e, he, rfl⟩, ?_, ?_⟩
    · split <;> rfl
    · split
      · exact mem_filter.mpr ⟨hr, by simpa using hne⟩
      · exact hr
  · intro e' he' r hr
    obtain ⟨x, hx, rfl⟩ := mem_map.mp he'
    refine ⟨x, hx, ?_, ?_⟩
    · split <;> rfl
    · split at hr
      · exact (mem_filter.mp hr).1
      · exact hr

open RPVerif.Sched in
/-- a cancel message takes the named task out of the wait pool: afterwards no pool holds an
    entry with that uid (a uid waits under one priority only: the pools are keyed by the
    priority of the task's own description) -/
theorem C08_cancel_message_clears (wp : List (Int × List Req)) (uid : Nat)
    (huniq : ∀ e1 ∈ wp, ∀ e2 ∈ wp, (∃ r ∈ e1.2, r.uid = uid) → (∃ r ∈ e2.2, r.uid = uid) → e1.1 = e2.1) :
    ∀ e' ∈ (removeFromPools wp uid).1, ∀ r ∈ e'.2, r.uid ≠ uid := by
  rcases removeFromPools_cases wp uid with ⟨hf, h⟩ | ⟨e0, hf, h⟩
  · rw [h]
    intro e he r hr hu
    exact List.find?_eq_none.mp hf e he (List.any_eq_true.mpr ⟨r, hr, decide_eq_true hu⟩)
  · rw [h]
    intro e' he' r hr hu
    obtain ⟨x, hx, rfl⟩ := mem_map.mp he'
    split at hr
    · -- the pool found: filtered
      exact of_decide_eq_true (mem_filter.mp hr).2 hu
    · -- another pool with the uid: its priority would be that of the pool found
      rename_i hxe
      have h0 := List.find?_some hf
      obtain ⟨r0, hr0, hh⟩ := List.any_eq_true.mp h0
      exact hxe (huniq x hx e0 (List.mem_of_find?_eq_some hf) ⟨r, hr, hu⟩ ⟨r0, hr0, of_decide_eq_true hh⟩)

open RPVerif.Sched in
/-- a task whose uid is on the cancel list when the scheduler puts it into the wait pool
    (the cancel request overtook it) is taken out again at once: it does not wait there to
    be started when resources free up.  Together with `C08_cancel_message_clears`: whichever
    of the CANCEL message and the task the scheduler sees first, the task does not stay. -/
theorem C08_marked_task_does_not_wait (p : Int) (uid : Nat) (ts : List Req) (s : SchedSt) (evs : List Ev)
    (hm : uid ∈ s.cancel) (hnd : (ts.map (·.uid)).Nodup)
    (hp : ∀ r ∈ poolOf s.waitpool p, r.uid ≠ uid) :
    ∀ r ∈ poolOf (parkTasks p s ts evs).1.waitpool p, r.uid ≠ uid :=
  parkTasks_marked p uid ts s evs hm hnd hp

open RPVerif.Sched in
/-- premises are satisfiable and the conclusion is not vacuous: a marked task parked next to a bystander -/
example : (parkTasks 0 { nodes := [], cancel := [7] } [{ uid := 7, ranks := 1, cpr := 1, gpr := 0, lfs := 0, mem := 0 },
      { uid := 8, ranks := 1, cpr := 1, gpr := 0, lfs := 0, mem := 0 }] []).1.waitpool.map (fun e => (e.1, e.2.map (·.uid)))
            = [(0, [8])] := rfl

open RPVerif.Sched in
/-- **bystanders over whole histories of the scheduling loop**: a task that no cancel message and no cancel
    mark of the history names (and that was not marked before) is never reported CANCELED by the scheduler,
    whatever else is canceled around it, whenever, and however often -/
theorem C08_bystander_never_canceled (c : Cfg) (s0 : SchedSt) (res : Bool) (its : List Iter) (u : Nat)
    (h0 : u ∉ s0.cancel) (hn : unnamed u its) :
    u ∉ canceledUids (runLoop c s0 res its []).2.2.flatten :=
  (runLoop_canceled c u its s0 res [] h0 not_mem_nil hn).1

open RPVerif.Sched in
/-- ... and it is not dropped: handed in once, it is either still waiting (once) or was reported once - as
    started or failed, not as canceled -/
theorem C08_bystander_keeps_its_place (c : Cfg) (s0 : SchedSt) (hw : s0.waitpool = []) (res : Bool) (its : List Iter) (u : Nat)
    (h0 : u ∉ s0.cancel) (hn : unnamed u its) (h1 : handed its u = 1) :
    u ∉ canceledUids (runLoop c s0 res its []).2.2.flatten
    ∧ ((count u (evUids (runLoop c s0 res its []).2.2.flatten) = 1 ∧ waiting (runLoop c s0 res its []).1.waitpool u = 0)
       ∨ (count u (evUids (runLoop c s0 res its []).2.2.flatten) = 0 ∧ waiting (runLoop c s0 res its []).1.waitpool u = 1)) :=
  ⟨C08_bystander_never_canceled c s0 res its u h0 hn, runLoop_one_place c s0 hw res its u h1⟩

end RPVerif.C08
