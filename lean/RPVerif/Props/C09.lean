import RPVerif.Model.Launch
import RPVerif.Lemmas.Launch
import RPVerif.Gen.Exec

/-!
# C09 — Launch commands enact the placement they were given

For every launch method that builds a command from a placement: the command starts
as many processes as the placement has ranks, puts on every host exactly the ranks the
placement has there and, where it pins, names the cores of the placement.
`procsOn` / `procCount` / `palsFill` / `Bind.cores` / `ibrunPlace` are the
interpretation of the third-party launchers (trusted, see Model/Launch.lean).
A placement is a list of slots, one per rank (C02), so the process count is compared with
`t.slots.length`; builders that copy `t.ranks` into the command (PRTE, IBRUN, SRUN without a
placement) are compared with that, and `t.slots.length = t.ranks` is assumed only where both occur
(C09_srun_count).
-/
namespace RPVerif.C09
open List RPVerif.Launch

/-- ranks the placement has on host `h` -/
def want (t : Task) (h : Host) : Nat := (hostsOf t).count h

/-! ## MPIRUN (Open MPI host list / host file, HPE MPT, dplace, ccmrun) -/

theorem C09_mpirun (c : MpirunCfg) (t : Task) (cmd : Cmd) (h : cmdMpirun c t = .ok cmd) :
    procCount cmd = t.slots.length ∧ ∀ x, procsOn cmd x = some (want t x) := by
  have hl : (hostsOf t).length = t.slots.length := length_map _
  rw [cmdMpirun, ite_error_eq_ok] at h
  obtain ⟨-, h⟩ := h
  split at h
  · cases h
  · cases h
    -- up to 42 hosts go on the command line, more into the host file; MPT starts `np` processes per host entry
    cases c.mpt <;> by_cases h42 : t.slots.length ≤ 42 <;>
      simp [procCount, procsOn, want, hl, h42, Nat.not_lt.mpr, Nat.lt_of_not_le]

/-- MPIRUN_DPLACE passes `dplace -c` the first core of every rank, in rank order -/
theorem C09_mpirun_dplace (c : MpirunCfg) (t : Task) (np : Nat) (mh ha : List Host) (hf : Option (List Host))
    (dp : Option (List Nat)) (mpt : Bool) (hd : c.dplace = true)
    (h : cmdMpirun c t = .ok (.mpirun np mh ha hf dp mpt)) :
    dp = some (dplaceCores t) ∧ (dplaceCores t).map some = t.slots.map (fun s => s.cores.head?) := by
  rw [cmdMpirun, ite_error_eq_ok] at h
  obtain ⟨-, h⟩ := h
  split at h
  · cases h
  · rename_i hall
    obtain ⟨-, -, -, -, hdp, -⟩ := Cmd.mpirun.inj (Except.ok.inj h)
    refine ⟨by rw [← hdp, if_pos hd], ?_⟩
    rw [dplaceCores, map_filterMap_some_eq_filter_map_isSome, filter_eq_self]
    exact fun o ho => all_eq_true.mp hall o ho

/-! ## MPIEXEC -/

/-- rank file: rank `i` runs on the host of slot `i`, bound to the cores of slot `i` -/
theorem C09_mpiexec_rankfile (c : MpiexecCfg) (t : Task) (cmd : Cmd) (hrf : c.useRf = true)
    (h : cmdMpiexec c t = .ok cmd) :
    procCount cmd = t.slots.length ∧ (∀ x, procsOn cmd x = some (want t x))
    ∧ cmd = .mpiexec t.slots.length (some (t.slots.map (fun s => (s.host, s.cores)))) none none [] := by
  rw [cmdMpiexec, ite_error_eq_ok, if_pos hrf] at h
  cases h.2
  refine ⟨rfl, fun x => ?_, rfl⟩
  rw [procsOn, map_map]
  rfl

/-- host file (`host slots=k` / `host:k`): every host gets as many ranks as the placement has there -/
theorem C09_mpiexec_hostfile (c : MpiexecCfg) (t : Task) (cmd : Cmd) (hrf : c.useRf = false) (hp : c.pals = false)
    (h : cmdMpiexec c t = .ok cmd) :
    procCount cmd = t.slots.length ∧ ∀ x, procsOn cmd x = some (want t x) := by
  rw [cmdMpiexec, ite_error_eq_ok, hrf, hp, if_neg Bool.false_ne_true, if_neg Bool.false_ne_true] at h
  cases h.2
  exact ⟨rfl, fun x => congrArg some (hostSum_countHosts (hostsOf t) x)⟩

/-- PALS: the ranks fall where the placement has them when the hosts are filled one after the
    other (every host but the last holds the same number of ranks, the last one not more) -/
theorem palsFill_uniform (M : Nat) (hist : List (Host × Nat))
    (hfull : ∀ e ∈ hist.dropLast, e.2 = M) (hlast : ∀ e ∈ hist.getLast?, e.2 ≤ M) :
    palsFill M (hist.map (·.1)) (total hist) = hist := by
  induction hist with
  | nil => rfl
  | cons e es ih =>
    rw [map_cons, palsFill, total_cons]
    cases es with
    | nil =>
      have : e.2 ≤ M := hlast e (by simp)
      simp [palsFill, total, Nat.min_eq_right this]
    | cons e2 es2 =>
      have he : e.2 = M := hfull e (by simp)
      have ih' := ih (fun x hx => hfull x (mem_cons_of_mem _ hx)) (fun x hx => hlast x (by simpa using hx))
      rw [he, Nat.min_eq_left (Nat.le_add_right _ _), Nat.add_sub_cancel_left, ih', ← he]

/-- outside the hypothesis of `palsFill_uniform` the ranks do NOT fall where the placement has them (host 5: 1 rank,
    host 7: 2): not claimed -/
example : palsFill 2 [5, 7] 3 ≠ [(5, 1), (7, 2)] := by decide

/-- PALS: the host file lists the hosts of the placement once each, in order of first use, `--ppn` is the largest
    number of ranks on one host, and there is one `--cpu-bind` entry per rank, in rank order -/
theorem C09_mpiexec_pals (c : MpiexecCfg) (t : Task) (hrf : c.useRf = false) (hp : c.pals = true)
    (hne : t.slots ≠ []) :
    ∃ hf ppn, cmdMpiexec c t = .ok (.mpiexec t.slots.length none (some hf) (some ppn) (t.slots.map (fun s => bindEntry s.cores)))
      ∧ hf.map (·.1) = (countHosts (hostsOf t) []).map (·.1)
      ∧ ppn = (countHosts (hostsOf t) []).foldl (fun m e => max m e.2) 0 := by
  unfold cmdMpiexec
  rw [if_neg hne]
  simp only [hrf, hp, Bool.false_eq_true, if_false, if_true]
  exact ⟨_, _, rfl, by rw [map_map]; rfl, rfl⟩

/-- `--cpu-bind list:`: the entry of a rank names exactly the cores of its slot -/
theorem C09_pals_bind (cores : List Nat) : (bindEntry cores).cores = cores := by
  unfold bindEntry
  split
  · rfl
  · rfl
  · split
    · rename_i h; simp only [Bind.cores]; exact h.symm
    · rfl

/-! ## SRUN: names the nodes of the placement, each once, and the number of ranks -/

theorem C09_srun (c : SrunCfg) (t : Task) (hne : t.slots ≠ []) :
    ∃ nodes nl f, cmdSrun c t = .srun nodes t.slots.length t.cpr nl f
      ∧ (∀ x, x ∈ nl ↔ x ∈ hostsOf t) ∧ StrictSorted nl
      ∧ (c.traverse = false → nodes = some nl.length) := by
  unfold cmdSrun
  rw [if_neg hne]
  refine ⟨_, _, _, rfl, fun x => mem_hostSet _ x, strictSorted_hostSet _, ?_⟩
  intro ht
  simp [ht]

theorem C09_srun_count (c : SrunCfg) (t : Task) (hwf : t.slots.length = t.ranks) :
    procCount (cmdSrun c t) = t.ranks := by
  unfold cmdSrun
  by_cases h : t.slots = []
  · rw [if_pos h]
    rfl
  · rw [if_neg h]
    exact hwf

/-! ## PRTE: `--host h:k` per host of the placement -/

theorem C09_prte (t : Task) : procCount (cmdPrte t) = t.ranks ∧ ∀ x, procsOn (cmdPrte t) x = some (want t x) :=
  ⟨rfl, fun x => congrArg some (hostSum_countHosts (hostsOf t) x)⟩

/-! ## single-process launchers -/

theorem want_single {t : Task} {s : Slot} (hs : t.slots = [s]) (x : Host) :
    want t x = if s.host = x then 1 else 0 := by
  simp [want, hostsOf, hs, count_singleton]

theorem C09_ssh (t : Task) (cmd : Cmd) (h : cmdSsh t = .ok cmd) :
    procCount cmd = t.slots.length ∧ ∀ x, procsOn cmd x = some (want t x) := by
  unfold cmdSsh at h
  split at h
  · rename_i s hs
    cases h
    exact ⟨by rw [hs]; rfl, fun x => by rw [want_single hs]; rfl⟩
  · cases h

theorem C09_rsh (t : Task) (cmd : Cmd) (h : cmdRsh t = .ok cmd) :
    procCount cmd = t.slots.length ∧ ∀ x, procsOn cmd x = some (want t x) := by
  unfold cmdRsh at h
  split at h
  · rename_i s hs
    cases h
    exact ⟨by rw [hs]; rfl, fun x => by rw [want_single hs]; rfl⟩
  · cases h

/-- FORK runs the task where the executor is: it only accepts a single rank placed on this host -/
theorem C09_fork (lh self : Host) (t : Task) (h : canFork lh self t = true) :
    ∃ s, t.slots = [s] ∧ (s.host = lh ∨ s.host = self) ∧ procCount .fork = t.slots.length ∧ t.useMpi ≠ some true := by
  unfold canFork at h
  split at h
  · cases h
  · rename_i s ss heq
    simp only [Bool.and_eq_true, Bool.or_eq_true, decide_eq_true_eq, List.isEmpty_iff, bne_iff_ne, ne_eq, and_assoc] at h
    obtain ⟨rfl, hhost, hmpi, -, -⟩ := h
    exact ⟨s, heq, hhost, by rw [heq]; rfl, hmpi⟩

/-- SSH refuses what it cannot launch: a placement of more than one rank (`canRsh` makes the same test) -/
theorem C09_ssh_refuses (t : Task) (h : canSsh t = true) : t.slots.length ≤ 1 := by
  unfold canSsh at h
  simp only [Bool.and_eq_true, decide_eq_true_eq] at h
  exact h.1.1

/-! ## launchers that receive only a rank count (APRUN, CCMRUN) or an offset (IBRUN) -/

theorem C09_count_only (t : Task) : procCount (.aprun t.ranks t.cpr) = t.ranks ∧ procCount (.ccmrun t.ranks) = t.ranks :=
  ⟨rfl, rfl⟩

theorem C09_ibrun_count (c : IbrunCfg) (t : Task) (cmd : Cmd) (h : cmdIbrun c t = .ok cmd) : procCount cmd = t.ranks := by
  rw [cmdIbrun, ite_error_eq_ok] at h
  split at h
  · cases h.2
  · cases h.2
    rfl

/-- the IBRUN offset starts at the first node of the RM's list that the placement uses:
    `tpn` task slots are skipped for every unused node before it -/
theorem C09_ibrun_first (tpn : Nat) (used pre post : List Nat) (n acc : Nat)
    (hpre : ∀ x ∈ pre, x ∉ used) (hn : n ∈ used) :
    ibrunFirst tpn used (pre ++ n :: post) acc = some (acc + tpn * pre.length, n) := by
  induction pre generalizing acc with
  | nil => simp [ibrunFirst, hn]
  | cons p ps ih =>
    simp only [cons_append, ibrunFirst, hpre p mem_cons_self, if_false, length_cons]
    rw [ih (acc + tpn) (fun x hx => hpre x (mem_cons_of_mem _ hx))]
    congr 2
    rw [Nat.mul_succ, Nat.add_assoc, Nat.add_comm tpn]

theorem listMin_eq {l : List Nat} {a : Nat} (ha : a ∈ l) (hle : ∀ b ∈ l, a ≤ b) : listMin l = a := by
  cases l with
  | nil => cases ha
  | cons x xs =>
    have hmin : (x :: xs).min? = some (listMin (x :: xs)) := rfl
    exact Option.some.inj (hmin.symm.trans (min?_eq_some_iff.mpr ⟨ha, hle⟩))

theorem mod_le_mod_of_div_eq {a b n : Nat} (hab : a ≤ b) (h : b / n = a / n) : a % n ≤ b % n := by
  have ea := Nat.div_add_mod a n
  have eb := Nat.div_add_mod b n
  rw [h] at eb
  refine Nat.le_of_add_le_add_left (a := n * (a / n)) ?_
  rwa [ea, eb]

theorem ibrunFirst_getD (tpn : Nat) (used idx : List Nat) (p : Nat) (hp : p < idx.length)
    (hmem : idx.getD p 0 ∈ used) (hpre : ∀ i, i < p → idx.getD i 0 ∉ used) :
    ibrunFirst tpn used idx 0 = some (tpn * p, idx.getD p 0) := by
  have hget : ∀ i (hi : i < idx.length), idx.getD i 0 = idx[i] := fun i hi => by
    rw [getD_eq_getElem?_getD, getElem?_eq_getElem hi, Option.getD_some]
  rw [hget p hp] at hmem ⊢
  have hlen : (idx.take p).length = p := length_take_of_le (Nat.le_of_lt hp)
  have hsplit : idx.take p ++ idx[p] :: idx.drop (p + 1) = idx := by rw [← drop_eq_getElem_cons hp, take_append_drop]
  have hunused : ∀ x ∈ idx.take p, x ∉ used := fun x hx => by
    obtain ⟨i, hi, rfl⟩ := getElem_of_mem hx
    rw [hlen] at hi
    rw [getElem_take, ← hget i (Nat.lt_trans hi hp)]
    exact hpre i hi
  have hwalk := C09_ibrun_first tpn used (idx.take p) (idx.drop (p + 1)) idx[p] 0 hunused hmem
  rwa [hsplit, hlen, Nat.zero_add] at hwalk

/-- **IBRUN round trip**: for every placement `ibrun` can express (ranks on consecutive task slots of the job, from any
    slot `off`, over any number of nodes) the offset the launch method computes is that `off`, so the command starts
    every rank on the node and cores of its slot -/
theorem C09_ibrun_roundtrip (c : IbrunCfg) (t : Task) (tpn off n : Nat) (htpn : 0 < tpn) (hn : 0 < n) (hcpr : 0 < t.cpr)
    (hnd : c.nodeIdx.Nodup) (hfit : (off + (n - 1)) / tpn < c.nodeIdx.length)
    (hs : t.slots = ibrunPlace tpn t.cpr c.nodeIdx off n) :
    ibrunOffset tpn c t = .ok off := by
  have hq : ∀ j, j < n → off / tpn ≤ (off + j) / tpn ∧ (off + j) / tpn < c.nodeIdx.length := fun j hj =>
    ⟨Nat.div_le_div_right (Nat.le_add_right _ _),
     Nat.lt_of_le_of_lt (Nat.div_le_div_right (Nat.add_le_add_left (Nat.le_sub_one_of_lt hj) _)) hfit⟩
  have hp : off / tpn < c.nodeIdx.length := (hq 0 hn).2
  have hhead : ∀ m, ((List.range t.cpr).map (fun k => m * t.cpr + k)).headD 0 = m * t.cpr
      ∧ (List.range t.cpr).map (fun k => m * t.cpr + k) ≠ [] := by
    obtain ⟨cp, hcp⟩ : ∃ cp, t.cpr = cp + 1 := ⟨t.cpr - 1, (Nat.sub_add_cancel hcpr).symm⟩
    intro m
    rw [hcp]
    simp [range_succ_eq_map]
  have hslot : ∀ s ∈ t.slots, ∃ j, j < n ∧ s.nodeIndex = c.nodeIdx.getD ((off + j) / tpn) 0
      ∧ s.cores.headD 0 = (off + j) % tpn * t.cpr ∧ s.cores ≠ [] := by
    intro s hs'
    rw [hs, ibrunPlace] at hs'
    obtain ⟨j, hj, rfl⟩ := mem_map.mp hs'
    exact ⟨j, mem_range.mp hj, rfl, hhead _⟩
  -- rank 0 sits on the first used node; ranks on that node have the same quotient, so no smaller remainder
  obtain ⟨s0, hs0, hs0n, hs0c⟩ : ∃ s ∈ t.slots, s.nodeIndex = c.nodeIdx.getD (off / tpn) 0
      ∧ s.cores.headD 0 = off % tpn * t.cpr := by
    rw [hs, ibrunPlace]
    exact ⟨_, mem_map.mpr ⟨0, mem_range.mpr hn, rfl⟩, rfl, (hhead _).1⟩
  have hfirst := ibrunFirst_getD tpn (t.slots.map (·.nodeIndex)) c.nodeIdx (off / tpn) hp
    (mem_map.mpr ⟨s0, hs0, hs0n⟩)
    (fun i hi hu => by
      obtain ⟨s, hs', e⟩ := mem_map.mp hu
      obtain ⟨j, hj, hnode, -⟩ := hslot s hs'
      -- rank `j` would lie on node `i`, before the node of rank 0
      have hqi : (off + j) / tpn = i := (getD_inj (hq j hj).2 (Nat.lt_trans hi hp) hnd).mp (hnode.symm.trans e)
      exact absurd (Nat.le_trans (hq j hj).1 (Nat.le_of_eq hqi)) (Nat.not_le.mpr hi))
  rw [ibrunOffset, hfirst]
  simp only
  rw [if_neg, listMin_eq (a := off % tpn * t.cpr), Nat.mul_div_cancel _ hcpr, Nat.div_add_mod]
  · exact mem_map.mpr ⟨s0, mem_filter.mpr ⟨hs0, by simpa using hs0n⟩, hs0c⟩
  · intro b hb
    obtain ⟨s, hs', rfl⟩ := mem_map.mp hb
    obtain ⟨hs1, hs2⟩ := mem_filter.mp hs'
    obtain ⟨j, hj, hnode, hcore, -⟩ := hslot s hs1
    have hqeq : (off + j) / tpn = off / tpn :=
      (getD_inj (hq j hj).2 hp hnd).mp (hnode.symm.trans (of_decide_eq_true hs2))
    rw [hcore]
    exact Nat.mul_le_mul_right _ (mod_le_mod_of_div_eq (Nat.le_add_right off j) hqeq)
  · intro h
    obtain ⟨s, hs', hc⟩ := any_eq_true.mp h
    obtain ⟨j, -, -, -, hne⟩ := hslot s (mem_filter.mp hs').1
    exact hne (by simpa using hc)

/-! ## no residue: a launcher answers a task the same way whatever it answered before -/

/-- the model of a launcher is a function of its configuration and the task alone; that the
    real launcher objects behave like this function over sequences of tasks (MPIRUN_DPLACE used
    to accumulate core lists) is what the correspondence check establishes -/
theorem C09_no_residue {α β} (f : α → β) (before after : List α) (t : α) :
    ((before ++ t :: after).map f)[before.length]? = some (f t) := by
  simp

/-! ## find_launcher -/

theorem C09_find_launcher (order : List (Nat × Bool)) :
    (∀ n, findLauncher order = some n →
        ∃ pre post, order = pre ++ (n, true) :: post ∧ ∀ e ∈ pre, e.2 = false)
    ∧ (findLauncher order = none → ∀ e ∈ order, e.2 = false) := by
  unfold findLauncher
  cases he : order.find? (fun e => e.2) with
  | some e =>
    refine ⟨fun n h => ?_, nofun⟩
    obtain ⟨hp, pre, post, hsplit, hall⟩ := find?_eq_some_iff_append.mp he
    cases Option.some.inj h
    exact ⟨pre, post, by rw [hsplit, ← hp], fun x hx => by simpa using hall x hx⟩
  | none =>
    exact ⟨fun _ => nofun, fun _ e he' => by simpa using find?_eq_none.mp he e he'⟩

/-! ## test vectors -/

def exTask : Task :=
  { ranks := 3, cpr := 2, gpus := false, useMpi := none, hasExe := true,
    slots := [⟨5, 5, [0, 1], []⟩, ⟨5, 5, [2, 5], []⟩, ⟨7, 7, [0, 1], []⟩] }

example : cmdPrte exTask = .prte 3 2 [(5, 2), (7, 1)] := by rfl
example : (cmdSrun ⟨20, false, 8⟩ exTask) = .srun (some 2) 3 2 [5, 7] false := by rfl
example : (exTask.slots.map (fun s => (bindEntry s.cores))) = [.range 0 1, .list [2, 5], .range 0 1] := by rfl
example : palsFill 2 [5, 7] 3 = [(5, 2), (7, 1)] := by rfl

/-! ## JSRUN -/

theorem erfFrom_spec (rs : List RSet) (base : Nat) :
    (erfFrom base rs).flatMap (·.ranks) = List.range' base (totalRanks rs)
    ∧ (erfFrom base rs).map (fun l => (l.host, l.cpus, l.gpus)) = rs.map (fun r => (r.node, r.ranks, r.gpus))
    ∧ (erfFrom base rs).map (fun l => l.ranks.length) = rs.map (fun r => r.ranks.length) := by
  induction rs generalizing base with
  | nil => exact ⟨rfl, rfl, rfl⟩
  | cons r rs ih =>
    obtain ⟨h1, h2, h3⟩ := ih (base + r.ranks.length)
    refine ⟨?_, ?_, ?_⟩
    · simp only [erfFrom, flatMap_cons, h1, totalRanks, map_cons, sum_cons]
      rw [range'_append_1]
    · simp only [erfFrom, map_cons, h2]
    · simp only [erfFrom, map_cons, h3, length_range']

/-- **JSRUN, explicit resource file**: the file names the rank ids 0 .. N-1, each exactly once, N being the number of
    ranks of the placement; line i carries the node, the cores of every rank and the GPUs of resource set i, and as
    many ranks as that set has -/
theorem C09_jsrun_erf (rs : List RSet) :
    (erfFrom 0 rs).flatMap (·.ranks) = List.range (totalRanks rs)
    ∧ (erfFrom 0 rs).map (fun l => (l.host, l.cpus, l.gpus)) = rs.map (fun r => (r.node, r.ranks, r.gpus))
    ∧ (erfFrom 0 rs).map (fun l => l.ranks.length) = rs.map (fun r => r.ranks.length) := by
  rw [range_eq_range']
  exact erfFrom_spec rs 0

/-- **JSRUN, resource set flags**: `-n` times `-a` is the number of ranks of the placement whenever the
    resource sets have the same number of ranks (what the jsrun scheduler produces); the nodes are left
    to jsrun (count only, like APRUN) -/
theorem C09_jsrun_count (tpc gpn : Nat) (omp : Bool) (rs : List RSet) (o : JsrunOpts) (h : jsrunOpts tpc gpn omp rs = some o)
    (hu : ∀ r ∈ rs, r.ranks.length = o.a) : o.n * o.a = totalRanks rs := by
  have hn : o.n = rs.length := by
    unfold jsrunOpts at h
    split at h
    · cases h
    · split at h
      · cases h
      · cases h
        rfl
  rw [hn, totalRanks, map_eq_replicate_iff.mpr hu, sum_replicate_nat]

/-- three sets of two ranks: the file names ranks 0..5 (and not 0,1,1,2,2,3) -/
example : (erfFrom 0 [⟨1, [[0], [1]], [0]⟩, ⟨1, [[2], [3]], [1]⟩, ⟨2, [[0], [1]], [0]⟩]).map (·.ranks)
    = [[0, 1], [2, 3], [4, 5]] := by rfl

/-! ## flavours of one launch-method family -/

/-- every entry of the registry holds the inspection of the name it is filed under -/
def RegOK (reg : List (LMName × LMName)) : Prop := ∀ e ∈ reg, e.2 = e.1

theorem lmCreate_perName (reg : List (LMName × LMName)) (n : LMName) (h : RegOK reg) :
    RegOK (lmCreate true reg n).1 ∧ (lmCreate true reg n).2 = n := by
  unfold lmCreate
  cases hf : reg.find? (fun e => e.1 = lmKey true n) with
  | some e =>
    have hk : e.1 = n := by
      have := find?_some hf
      exact of_decide_eq_true this
    exact ⟨h, (h e (mem_of_find?_eq_some hf)).trans hk⟩
  | none =>
    refine ⟨fun e he => ?_, rfl⟩
    rcases mem_append.mp he with he | he
    · exact h e he
    · rw [mem_singleton.mp he]
      rfl

/-- **C09 for platforms that configure several flavours of one launcher**: with the inspection result of a launch method
    stored under its own name (`Gen.lmInfoKeyPerName`, read from LaunchMethod.__init__), whatever launch methods were
    created before, of the same family or not, a launch method initialises from the inspection of ITS name: its flags
    (mpt, rsh, dplace, ccmrun, erf ...) are its own, so the command it writes is the one it writes when created alone -/
theorem C09_flavours_keep_their_flags (before : List LMName) (n : LMName) :
    (lmCreate Gen.lmInfoKeyPerName (lmCreateAll Gen.lmInfoKeyPerName [] before) n).2 = n := by
  have e : Gen.lmInfoKeyPerName = true := rfl
  rw [e]
  have hreg : RegOK (lmCreateAll true [] before) :=
    foldlRecOn before _ (motive := RegOK) (fun _ he => absurd he not_mem_nil) (fun r hr m _ => (lmCreate_perName r m hr).1)
  exact (lmCreate_perName _ n hreg).2

/-- one key per family hands the second flavour the flags of the first -/
theorem C09_flavours_witness :
    (lmCreate false (lmCreateAll false [] [⟨1, 0⟩]) ⟨1, 2⟩).2 = ⟨1, 0⟩
    ∧ (lmCreate true (lmCreateAll true [] [⟨1, 0⟩]) ⟨1, 2⟩).2 = ⟨1, 2⟩ := by decide

end RPVerif.C09
