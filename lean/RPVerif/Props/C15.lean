import RPVerif.Model.Wait

/-!
# C15 — Waiting on tasks and pilots returns when it should

"Shortly after" is one polling tick.  `none` from a loop means "has not
returned within the fuel"; the theorems give explicit fuel bounds, i.e. they
are termination results.
-/
namespace RPVerif.C15
open RPVerif.States RPVerif.Wait

/-- default request = any final state -/
theorem C15_default : norm .none = [.done, .failed, .canceled] ∧ norm (.many []) = norm .none
    ∧ (∀ s, norm (.one s) = [s]) ∧ (∀ s l, norm (.many (s :: l)) = s :: l) :=
  ⟨rfl, rfl, fun _ => rfl, fun _ _ => rfl⟩

section scheme
variable {σ β : Type} (now late : Nat → σ → Prop) [∀ k s, Decidable (now k s)] [∀ k s, Decidable (late k s)]
  (next : Nat → σ → σ) (out : Nat → β)

/-- What `entityLoop`, `waitTasksLoop` and `waitPilotsLoop` have in common: at tick `k` the loop returns at once (`now`),
    or after its sleep (`late`), or goes on with `next k s`, the entities still watched. -/
def pollLoop : Nat → Nat → σ → Option (Nat × β)
  | 0,        _, _ => none
  | fuel + 1, k, s =>
    if now k s then some (k, out k)
    else if late k s then some (k + 1, out (k + 1))
    else pollLoop fuel (k + 1) (next k s)

variable {now late next out}

theorem pollLoop_returns {I : Nat → σ → Prop} {D B : Nat}
    (hD : ∀ k s, I k s → k < D)
    (hnow : ∀ k s, I k s → now k s → k ≤ B)
    (hlate : ∀ k s, I k s → ¬ now k s → late k s → k + 1 ≤ B)
    (hnext : ∀ k s, I k s → ¬ now k s → ¬ late k s → I (k + 1) (next k s))
    {fuel k : Nat} {s : σ} (hstart : I k s) (hfuel : D - k ≤ fuel) :
    ∃ r, pollLoop now late next out fuel k s = some r ∧ r.1 ≤ B ∧ r.2 = out r.1 := by
  fun_induction pollLoop now late next out fuel k s with
  | case1 k s =>
    have := hD k s hstart
    omega
  | case2 fuel k s h1 => exact ⟨_, rfl, hnow k s hstart h1, rfl⟩
  | case3 fuel k s h1 h2 => exact ⟨_, rfl, hlate k s hstart h1 h2, rfl⟩
  | case4 fuel k s h1 h2 ih => exact ih (hnext k s hstart h1 h2) (by omega)

theorem pollLoop_exit (fuel k : Nat) (s : σ) (r : Nat × β) : pollLoop now late next out fuel k s = some r →
    r.2 = out r.1 ∧ ∃ k' s', (now k' s' ∧ r.1 = k') ∨ (late k' s' ∧ r.1 = k' + 1) := by
  fun_induction pollLoop now late next out fuel k s with
  | case1 => exact fun h => nomatch h
  | case2 fuel k s h1 =>
    intro h
    cases h
    exact ⟨rfl, k, s, Or.inl ⟨h1, rfl⟩⟩
  | case3 fuel k s h1 h2 =>
    intro h
    cases h
    exact ⟨rfl, k, s, Or.inr ⟨h2, rfl⟩⟩
  | case4 fuel k s h1 h2 ih => exact ih

end scheme

theorem pollLoop_watch_returns {β : Type} {now : Nat → List Nat → Prop} [∀ k s, Decidable (now k s)] {out : Nat → β}
    (hnow : ∀ k, now k []) (sat : Nat → Nat → Bool) (ents : List Nat) (K : Nat)
    (hs : ∀ i ∈ ents, ∀ k, K ≤ k → sat i k = true) :
    ∃ r, pollLoop now (fun _ _ => False) (fun k toCheck => toCheck.filter (fun i => !sat i k)) out (K + 2) 0 ents
           = some r ∧ r.1 ≤ K + 1 ∧ r.2 = out r.1 := by
  -- an entity still watched at tick `k` is one of `ents`, and `k ≤ K`: those the filter keeps are not satisfied at `k`
  have hstart : 0 ≤ K + 1 ∧ ∀ i ∈ ents, i ∈ ents ∧ 0 ≤ K := ⟨Nat.zero_le _, fun i hi => ⟨hi, Nat.zero_le _⟩⟩
  refine pollLoop_returns (I := fun k toCheck => k ≤ K + 1 ∧ ∀ i ∈ toCheck, i ∈ ents ∧ k ≤ K) (D := K + 2)
    (hD := fun _ _ hI => Nat.lt_succ_of_le hI.1) (hnow := fun _ _ hI _ => hI.1) (hlate := fun _ _ _ _ => False.elim)
    (hnext := ?_) (hstart := hstart) (hfuel := Nat.le_refl _)
  intro k toCheck hI hn _
  obtain ⟨i, hi⟩ := List.exists_mem_of_ne_nil toCheck (fun e => hn (e ▸ hnow k))
  refine ⟨Nat.succ_le_succ (hI.2 i hi).2, fun i hi => ?_⟩
  obtain ⟨hi, hsat⟩ := List.mem_filter.mp hi
  refine ⟨(hI.2 i hi).1, Nat.lt_of_not_le fun hK => ?_⟩
  rw [hs i (hI.2 i hi).1 k hK] at hsat
  cases hsat

/-- the models write the two tests that lead to the same return as two `if`s -/
theorem if_or {α : Type} (a b : Prop) [Decidable a] [Decidable b] (x y : α) :
    (if a then x else if b then x else y) = if a ∨ b then x else y := by
  by_cases ha : a <;> by_cases hb : b <;> simp [ha, hb]

theorem entityLoop_eq (states : List St) (traj : Nat → St) (to fuel : Nat) : ∀ k,
    entityLoop states traj to fuel k
      = pollLoop (fun k _ => traj k ∈ states ∨ (traj k).isFinal = true) (fun k _ => to ≠ 0 ∧ to ≤ k + 1)
          (fun _ u => u) traj fuel k () := by
  induction fuel with
  | zero => intro _; rfl
  | succ fuel ih => intro k; rw [entityLoop, pollLoop, if_or, ih]

/-- **C15 for `Task.wait` / `Pilot.wait` — returns**: for every request form and
    every trajectory, if the entity is in a requested state at tick `j`, or is
    final at tick `j` (whatever final state, awaited or not), the call returns
    no later than tick `j`. -/
theorem C15_entity_returns (req : Req) (traj : Nat → St) (to j : Nat)
    (h : traj j ∈ norm req ∨ (traj j).isFinal = true) :
    ∃ r, entityWait req traj to (j + 1) = some r ∧ r.1 ≤ j ∧ r.2 = traj r.1 := by
  unfold entityWait
  split
  · exact ⟨_, rfl, Nat.zero_le _, rfl⟩
  · rw [entityLoop_eq]
    have hlt : ∀ k, k ≤ j → ¬ (traj k ∈ norm req ∨ (traj k).isFinal = true) → k + 1 ≤ j :=
      fun k hk hn => Nat.lt_of_le_of_ne hk (fun e => hn (e ▸ h))
    exact pollLoop_returns (I := fun k _ => k ≤ j) (D := j + 1) (hD := fun _ _ hk => Nat.lt_succ_of_le hk)
      (hnow := fun _ _ hk _ => hk) (hlate := fun k _ hk hn _ => hlt k hk hn) (hnext := fun k _ hk hn _ => hlt k hk hn)
      (hstart := Nat.zero_le j) (hfuel := Nat.le_refl _)

/-- **timeout**: with a timeout of `to > 0` ticks the call returns no later than
    tick `to`, whatever the trajectory -/
theorem C15_entity_timeout (req : Req) (traj : Nat → St) (to : Nat) (hto : to ≠ 0) :
    ∃ r, entityWait req traj to to = some r ∧ r.1 ≤ to ∧ r.2 = traj r.1 := by
  unfold entityWait
  split
  · exact ⟨_, rfl, Nat.zero_le _, rfl⟩
  · rw [entityLoop_eq]
    refine pollLoop_returns (I := fun k _ => k < to) (D := to) (hD := fun _ _ hk => hk)
      (hnow := fun _ _ hk _ => Nat.le_of_lt hk) (hlate := fun _ _ hk _ _ => hk) (hnext := ?_)
      (hstart := Nat.pos_of_ne_zero hto) (hfuel := Nat.le_refl _)
    intro k _ _ _ hl
    exact Nat.lt_of_not_le fun h => hl ⟨hto, h⟩

/-- **honest**: whenever the call returns, the value returned is the entity's
    actual state at that tick; and unless that tick is the timeout, the state
    is an awaited one or a final one -/
theorem C15_entity_honest (req : Req) (traj : Nat → St) (to fuel : Nat) (r : Nat × St)
    (h : entityWait req traj to fuel = some r) :
    r.2 = traj r.1
    ∧ (r.2 ∈ norm req ∨ r.2.isFinal = true ∨ (to ≠ 0 ∧ to ≤ r.1)) := by
  unfold entityWait at h
  split at h
  · next h0 => cases h; exact ⟨rfl, Or.inr (Or.inl h0)⟩
  · rw [entityLoop_eq] at h
    obtain ⟨hr, k, _, ⟨hs, hk⟩ | ⟨hl, hk⟩⟩ := pollLoop_exit _ _ _ _ h
    · refine ⟨hr, ?_⟩
      rw [hr, hk]
      exact hs.imp_right Or.inl
    · exact ⟨hr, Or.inr (Or.inr (hk ▸ hl))⟩

theorem waitTasksLoop_eq (N cv : Nat) (traj : Nat → Nat → St) (ents : List Nat) (to fuel : Nat) : ∀ k toCheck,
    waitTasksLoop N cv traj ents to fuel k toCheck
      = pollLoop (fun k toCheck => toCheck = [] ∨ (to ≠ 0 ∧ to ≤ k)) (fun _ _ => False)
          (fun k toCheck => toCheck.filter (fun i => !taskSat N cv (traj i (k + 1))))
          (fun k => ents.map (fun i => traj i k)) fuel k toCheck := by
  induction fuel with
  | zero => intro _ _; rfl
  | succ fuel ih => intro k toCheck; rw [waitTasksLoop, pollLoop, if_or, if_neg not_false, ih]

/-- `wait_tasks` returns at most one tick after every watched task is (and
    stays) final or at/after the earliest awaited state -/
theorem C15_wait_tasks_returns (N : Nat) (req : Req) (traj : Nat → Nat → St) (ents : List Nat)
    (to K : Nat)
    (hs : ∀ i ∈ ents, ∀ k, K ≤ k → taskSat N (checkVal N (norm req)) (traj i k) = true) :
    ∃ r, waitTasks N req traj ents to (K + 2) = some r ∧ r.1 ≤ K + 1
         ∧ r.2 = ents.map (fun i => traj i r.1) := by
  unfold waitTasks
  rw [waitTasksLoop_eq]
  exact pollLoop_watch_returns (fun _ => Or.inl rfl) (fun i k => taskSat N _ (traj i (k + 1))) ents K
    (fun i hi k hk => hs i hi (k + 1) (Nat.le_succ_of_le hk))

/-- **timeout**: with a timeout of `to > 0` ticks `wait_tasks` returns no later than tick `to` (the test comes
    before the sleep), with the states of that tick -/
theorem C15_wait_tasks_timeout (N : Nat) (req : Req) (traj : Nat → Nat → St) (ents : List Nat)
    (to : Nat) (hto : to ≠ 0) :
    ∃ r, waitTasks N req traj ents to (to + 1) = some r ∧ r.1 ≤ to
         ∧ r.2 = ents.map (fun i => traj i r.1) := by
  unfold waitTasks
  rw [waitTasksLoop_eq]
  refine pollLoop_returns (I := fun k _ => k ≤ to) (D := to + 1) (hD := fun _ _ hk => Nat.lt_succ_of_le hk)
    (hnow := fun _ _ hk _ => hk) (hlate := fun _ _ _ _ => False.elim) (hnext := ?_)
    (hstart := Nat.zero_le to) (hfuel := Nat.le_refl _)
  intro k _ _ hn _
  exact Nat.lt_of_not_le fun h => hn (Or.inr ⟨hto, h⟩)

theorem waitPilotsLoop_eq (states : List St) (traj : Nat → Nat → St) (ents : List Nat) (to fuel : Nat) :
    ∀ k toCheck, waitPilotsLoop states traj ents to fuel k toCheck
      = pollLoop (fun k toCheck => toCheck = []
            ∨ (toCheck.filter (fun i => !pilotSat states (traj i k)) ≠ [] ∧ to ≠ 0 ∧ to ≤ k)) (fun _ _ => False)
          (fun k toCheck => toCheck.filter (fun i => !pilotSat states (traj i k)))
          (fun k => ents.map (fun i => traj i k)) fuel k toCheck := by
  induction fuel with
  | zero => intro _ _; rfl
  | succ fuel ih => intro k toCheck; rw [waitPilotsLoop, pollLoop, if_or, if_neg not_false, ih]

/-- `wait_pilots` returns at most one tick after every watched pilot is (and
    stays) in an awaited state or final -/
theorem C15_wait_pilots_returns (req : Req) (traj : Nat → Nat → St) (ents : List Nat) (to K : Nat)
    (hs : ∀ i ∈ ents, ∀ k, K ≤ k → pilotSat (norm req) (traj i k) = true) :
    ∃ r, waitPilots req traj ents to (K + 2) = some r ∧ r.1 ≤ K + 1
         ∧ r.2 = ents.map (fun i => traj i r.1) := by
  unfold waitPilots
  rw [waitPilotsLoop_eq]
  exact pollLoop_watch_returns (fun _ => Or.inl rfl) (fun i k => pilotSat _ (traj i k)) ents K hs

/-- **timeout**: `wait_pilots` returns no later than ONE TICK AFTER the timeout: the test is made only while a
    watched pilot is unsatisfied, so when the last one is satisfied exactly at tick `to` the loop sleeps once more -/
theorem C15_wait_pilots_timeout (req : Req) (traj : Nat → Nat → St) (ents : List Nat)
    (to : Nat) (hto : to ≠ 0) :
    ∃ r, waitPilots req traj ents to (to + 2) = some r ∧ r.1 ≤ to + 1
         ∧ r.2 = ents.map (fun i => traj i r.1) := by
  unfold waitPilots
  rw [waitPilotsLoop_eq]
  refine pollLoop_returns (I := fun k toCheck => k ≤ to + 1 ∧ (toCheck ≠ [] → k ≤ to)) (D := to + 2)
    (hD := fun _ _ hI => Nat.lt_succ_of_le hI.1) (hnow := fun _ _ hI _ => hI.1) (hlate := fun _ _ _ _ => False.elim)
    (hnext := ?_) (hstart := ⟨Nat.zero_le _, fun _ => Nat.zero_le _⟩) (hfuel := Nat.le_refl _)
  intro k toCheck hI hn _
  refine ⟨Nat.succ_le_succ (hI.2 fun e => hn (Or.inl e)), fun hne => ?_⟩
  exact Nat.lt_of_not_le fun h => hn (Or.inr ⟨hne, hto, h⟩)

/-- default wait on a running task that becomes DONE at tick 3 returns at tick 3 (never, before the repair: DESIGN 7.1) -/
example : entityWait .none (fun k => if k < 3 then .nf 10 else .done) 0 10 = some (3, .done) := by decide
/-- waiting for DONE on a task that FAILS at tick 2 returns FAILED at tick 2 (likewise) -/
example : entityWait (.one .done) (fun k => if k < 2 then .nf 10 else .failed) 0 10 = some (2, .failed) := by decide
example : waitTasks 15 (.one (.nf 10)) (fun i k => if k < i + 1 then .nf 9 else .nf 11) [0, 1] 0 10
    = some (2, [.nf 11, .nf 11]) := by decide

end RPVerif.C15
