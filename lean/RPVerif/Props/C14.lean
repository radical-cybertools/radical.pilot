import RPVerif.Lemmas.States
import RPVerif.Model.AgentCause
import RPVerif.Gen.States
import RPVerif.Gen.AgentCause

/-!
# C14 — Pilot states move forward and end for the right reason
-/
namespace RPVerif.C14
open RPVerif.States RPVerif.AgentCause

def N : Nat := Gen.pilotStateValues.length - 3

/-- the numeric table of `states.py` for pilots has the shape the model assumes (as `C06.taskTable_ok` for tasks) -/
theorem pilotTable_ok :
    (Gen.pilotStateValues.take N).map (·.2) = List.range N
    ∧ Gen.pilotStateValues.drop N = [("DONE", N), ("FAILED", N), ("CANCELED", N)]
    ∧ (Gen.pilotStateValues.map (·.1)).Nodup
    ∧ Gen.pilotStateValues.head? = some ("NEW", 0) ∧ Gen.pilotNoneValue = -1 :=
  ⟨rfl, rfl, by decide, rfl, rfl⟩

/-! ## notification path -/

/-- one step seen by a PILOT_STATE callback: the same state again (a repeated
    notification), or a forward step as for tasks -/
def PStep (N : Nat) (a b : St) : Prop := b = a ∨ Step N a b

def PChain (N : Nat) : St → List St → Prop
  | _, []      => True
  | s, n :: ns => PStep N s n ∧ PChain N n ns

theorem pchain_of_chain {M : Nat} {s : St} {ns : List St} (h : Chain M s ns) : PChain M s ns := by
  induction ns generalizing s with
  | nil => trivial
  | cons n ns ih => exact ⟨Or.inr h.1, ih h.2⟩

theorem pchain_append {M : Nat} {s : St} {xs ys : List St}
    (h1 : PChain M s xs) (h2 : PChain M (lastOf s xs) ys) : PChain M s (xs ++ ys) := by
  induction xs generalizing s with
  | nil => exact h2
  | cons x xs ih => exact ⟨h1.1, ih h1.2 h2⟩

/-- it raises (state untouched), or the callbacks continue the chain and the pilot ends in the last state announced -/
theorem updatePilot_spec (cur tgt : St) (ht : tgt.WF N) :
    (∃ e, updatePilot N cur tgt = .error e)
    ∨ ∃ cbs, updatePilot N cur tgt = .ok (lastOf cur cbs, cbs) ∧ PChain N cur cbs := by
  by_cases hlt : cur.val N < tgt.val N
  · obtain ⟨pre, h, hc⟩ := updatePilot_of_lt ht hlt
    exact .inr ⟨_, by rw [h, lastOf_snoc], pchain_of_chain hc⟩
  unfold updatePilot
  by_cases h0 : cur = tgt
  · have : pilotUpdate N cur tgt = .ok tgt := by
      unfold pilotUpdate
      rw [if_neg (fun h => hlt (Nat.lt_of_succ_lt h.2))]
    rw [if_pos h0, this]
    exact .inr ⟨[tgt], rfl, .inl h0.symm, trivial⟩
  rw [if_neg h0]
  rcases pilotProgress_cases N cur tgt with ⟨e, he, _⟩ | ⟨s, hs, _⟩ | ⟨h, _⟩
  · exact .inl ⟨e, by rw [he]⟩
  · refine .inr ⟨[], ?_, trivial⟩
    rw [hs]
    dsimp only
    split <;> rfl
  · exact absurd h hlt

/-- a final state reported while the pilot handle is still in ANY earlier, non-final state (the
    notifications in between were lost or are late) is never refused: the gap is replayed, the handle
    ends in that final state, and it is the last state the callbacks - the task manager's among them -
    are called with (used by C13: the tasks of the pilot are then failed) -/
theorem C14_final_delivered (i : Nat) (hi : i < N) (tgt : St) (ht : tgt.isFinal = true) :
    ∃ cbs, updatePilot N (.nf i) tgt = .ok (tgt, cbs ++ [tgt]) := by
  obtain ⟨pre, h, _⟩ := updatePilot_of_lt (cur := .nf i) (wf_of_final (N := N) ht) (by rw [val_final ht]; exact hi)
  exact ⟨pre, h⟩

/-- test: a pilot that is still being launched is reported DONE -/
example : updatePilot N (.nf 1) .done = .ok (.done, [.nf 2, .nf 3, .nf 4, .done]) := by rfl

/-- **C14 (notification part)**: for every stream of notifications for a known
    pilot — duplicates, reordering, gaps, late non-final updates after a final
    one — what PILOT_STATE callbacks see is a chain of `PStep`s from the pilot's
    state, and the pilot ends in the last state announced. -/
theorem C14_forward (cur : St) (ts : List St) (hw : ∀ t ∈ ts, t.WF N) :
    PChain N cur (runPilot N cur ts).2 ∧ (runPilot N cur ts).1 = lastOf cur (runPilot N cur ts).2 := by
  induction ts generalizing cur with
  | nil => exact ⟨trivial, rfl⟩
  | cons t ts ih =>
    obtain ⟨hwt, hws⟩ := List.forall_mem_cons.mp hw
    unfold runPilot
    rcases updatePilot_spec cur t hwt with ⟨e, he⟩ | ⟨cbs, hc, hp⟩
    · rw [he]; exact ih cur hws
    · rw [hc]
      have ⟨i1, i2⟩ := ih (lastOf cur cbs) hws
      refine ⟨pchain_append hp i1, ?_⟩
      simp only [lastOf_append]; exact i2

/-- a `PStep` never goes backwards, fills gaps (at most one value forward unless
    entering FAILED/CANCELED) and never leaves a final state -/
theorem PStep_forward (a b : St) (ha : a.WF N) (h : PStep N a b) :
    a.val N ≤ b.val N
    ∧ (b.val N ≤ a.val N + 1 ∨ b.isFC = true)
    ∧ (a.isFinal = true → b = a) := by
  rcases h with rfl | ⟨hnf, _, hv⟩
  · exact ⟨Nat.le_refl _, .inl (Nat.le_succ _), fun _ => rfl⟩
  · refine ⟨Nat.le_of_lt (step_val_lt ha ⟨hnf, ‹_›, hv⟩), hv.imp Nat.le_of_eq id, fun h => ?_⟩
    rw [hnf] at h
    cases h

/-- **final states are sticky** for pilots: no later notification changes a
    final state, in particular never to a non-final one -/
theorem C14_final_sticky (cur : St) (ts : List St) (hw : ∀ t ∈ ts, t.WF N)
    (hf : cur.isFinal = true) : (runPilot N cur ts).1 = cur := by
  have ⟨c, l⟩ := C14_forward cur ts hw
  rw [l]
  generalize (runPilot N cur ts).2 = cbs at c
  induction cbs with
  | nil => rfl
  | cons n ns ih =>
    obtain ⟨rfl | hs, h2⟩ := c
    · exact ih h2
    · rw [hs.1] at hf
      cases hf

/-- `PilotManager._update_pilot` with its lookup of the pilot: returns the pilots and the callbacks `(pid, state)` -/
def pmUpdate (N : Nat) (ps : List (Nat × St)) (pid : Nat) (tgt : St) : List (Nat × St) × List (Nat × St) :=
  match ps.find? (fun p => p.1 = pid) with
  | none => (ps, [])
  | some p =>
    match updatePilot N p.2 tgt with
    | .error _     => (ps, [])
    | .ok (c, cbs) => (ps.map (fun q => if q.1 = pid then (pid, c) else q), cbs.map (fun s => (pid, s)))

/-- notifications for pilots the manager does not know are ignored -/
theorem C14_unknown_ignored (ps : List (Nat × St)) (pid : Nat) (tgt : St)
    (h : ∀ p ∈ ps, p.1 ≠ pid) : pmUpdate N ps pid tgt = (ps, []) := by
  unfold pmUpdate
  have : ps.find? (fun p => p.1 = pid) = none := by
    apply List.find?_eq_none.mpr
    intro p hp; simpa using h p hp
  rw [this]

/-! ## the task manager scheduler's view: messages carrying several notifications -/

/-- the task manager scheduler's view of one pilot: `_update_pilot_states` applies `_pilot_state_progress`
    to every notification of a message, in order (a refused contradictory final leaves the state) -/
def track (cur : St) (seq : List St) : St :=
  seq.foldl (fun c t => match pilotProgress N c t with | .ok (t', _) => t' | .error _ => c) cur

theorem track_one (c t : St) (hc : c.WF N) (ht : t.WF N) :
    (track c [t]).WF N ∧ c.val N ≤ (track c [t]).val N ∧ t.val N ≤ (track c [t]).val N := by
  simp only [track, List.foldl]
  rcases pilotProgress_cases N c t with ⟨e, he, hf⟩ | ⟨s, hs, h⟩ | ⟨hlt, hp⟩
  · rw [he]
    exact ⟨hc, Nat.le_refl _, val_le_of_final ht hf⟩
  · rw [hs]
    rcases h with ⟨_, hf, rfl⟩ | ⟨hle, rfl⟩
    · exact ⟨ht, val_le_of_final hc hf, Nat.le_refl _⟩
    · exact ⟨hc, Nat.le_refl _, hle⟩
  · rw [hp]
    exact ⟨ht, Nat.le_of_lt hlt, Nat.le_refl _⟩

/-- **no notification of a message is lost**: after a message with any number of notifications for a pilot,
    in any order, the tracked state has at least the value of every one of them (and of the state before) -/
theorem C14_tracked_covers (cur : St) (seq : List St) (hc : cur.WF N) (hs : ∀ t ∈ seq, t.WF N) :
    (track cur seq).WF N ∧ cur.val N ≤ (track cur seq).val N ∧ ∀ t ∈ seq, t.val N ≤ (track cur seq).val N := by
  induction seq generalizing cur with
  | nil => exact ⟨hc, Nat.le_refl _, by simp⟩
  | cons t rest ih =>
    have ht := hs t (by simp)
    obtain ⟨w1, w2, w3⟩ := track_one cur t hc ht
    have : track cur (t :: rest) = track (track cur [t]) rest := rfl
    rw [this]
    obtain ⟨i1, i2, i3⟩ := ih _ w1 (fun x hx => hs x (by simp [hx]))
    refine ⟨i1, Nat.le_trans w2 i2, ?_⟩
    intro x hx
    rcases List.mem_cons.mp hx with rfl | hx
    · exact Nat.le_trans w3 i2
    · exact i3 x hx

/-! ## why the pilot ended -/

/-- the cause bookkeeping of `Agent_0` is what the model says: a handler records its cause, then stops (`stop` itself
    records 'cancel' only when no cause is known yet); `finalize` maps any other cause to FAILED; the bootstrapper reports
    the recorded state, FAILED when there is none -/
theorem agentCause_tie :
    Gen.causeWrites = [("__init__", ["set:None"]), ("_check_lifetime", ["set:timeout", "stop"]),
                       ("_ctrl_cancel_pilots", ["set:cancel", "stop"]), ("stop", ["setIfNone:cancel"])]
    ∧ Gen.finalizeMap = [("timeout", "DONE"), ("cancel", "CANCELED"), ("sys.exit", "CANCELED")]
    ∧ Gen.finalizeElse = "FAILED"
    ∧ Gen.bootstrapReadsSignal = true ∧ Gen.bootstrapDefault = "FAILED" :=
  ⟨rfl, rfl, rfl, rfl, rfl⟩

/-- no handler of `Agent_0` writes the cause after it called `stop()` (read from the source) -/
def settledBeforeStop : List String → Bool
  | []      => true
  | a :: as => if a = "stop" then as.all (fun x => !(x.startsWith "set")) else settledBeforeStop as

theorem C14_cause_settled_before_stop : Gen.causeWrites.all (fun m => settledBeforeStop m.2) = true := by decide

/-- **the cause is settled before the termination event is set**: when a handler records its cause
    and then stops, `finalize` - at whatever moment after the `stop()` it runs in the other thread -
    sees that cause -/
theorem C14_cause_observable (x : Cause) (hx : x ≠ .none) (c : Cause) :
    observable c [.set x, .stop] = [x] := by
  simp [observable, hx]

/-- `_check_lifetime` with its two statements swapped: `finalize` may see the default 'cancel' before 'timeout' is written -/
theorem C14_cause_order_witness : observable .none [.stop, .set .timeout] = [.cancel, .timeout] := rfl

/-- an event whose handler does not stop the agent (a cancel command naming other pilots) leaves the cause -/
theorem step_of_not_stops {c : Cause} {e : Ev} (h : stops e = false) : step c e = c := by
  cases e with
  | cancelCmd named => cases named with
    | false => rfl
    | true => cases h
  | _ => cases h

/-- `finalize` racing with the stopping thread: the state written is DONE if the first event that
    stops the agent is the expired lifetime, CANCELED if it is a cancel request or a terminate -/
theorem C14_cause_at_first_stop (pre post : List Ev) (e : Ev) (he : stops e = true) (hpre : ∀ x ∈ pre, stops x = false) :
    causeAtFirstStop .none (pre ++ e :: post) = some (step .none e)
    ∧ (e = .lifetimeExpired → finalState (step .none e) = .done)
    ∧ (e ≠ .lifetimeExpired → finalState (step .none e) = .canceled) := by
  refine ⟨?_, fun h => by rw [h]; rfl, fun h => ?_⟩
  · induction pre with
    | nil => simp only [List.nil_append, causeAtFirstStop, he, if_true]
    | cons y ys ih =>
      obtain ⟨hy, hys⟩ := List.forall_mem_cons.mp hpre
      simp only [List.cons_append, causeAtFirstStop, hy, Bool.false_eq_true, if_false, step_of_not_stops hy]
      exact ih hys
  · cases e with
    | lifetimeExpired => exact absurd rfl h
    | terminateCmd => rfl
    | cancelCmd named => cases named with
      | true => rfl
      | false => cases he

theorem run_append (c : Cause) (xs ys : List Ev) : run c (xs ++ ys) = run (run c xs) ys :=
  List.foldl_append

theorem run_fixed (c : Cause) (evs : List Ev) (h : ∀ e ∈ evs, step c e = c) : run c evs = c :=
  List.foldlRecOn (motive := (· = c)) evs step rfl fun _ hc e he => hc ▸ h e he

theorem timeout_kept (evs : List Ev) (h : Ev.cancelCmd true ∉ evs) : run .timeout evs = .timeout := by
  refine run_fixed _ _ (fun e he => ?_)
  cases e with
  | cancelCmd named => cases named with
    | false => rfl
    | true => exact absurd he h
  | _ => rfl

theorem cancel_kept (evs : List Ev) (h : Ev.lifetimeExpired ∉ evs) : run .cancel evs = .cancel := by
  refine run_fixed _ _ (fun e he => ?_)
  cases e with
  | lifetimeExpired => exact absurd he h
  | cancelCmd named => cases named <;> rfl
  | terminateCmd => rfl

/-- **DONE when the pilot ran until its requested run time**: the lifetime check
    fires and no cancel request naming the pilot follows — whatever happened
    before, and whatever `terminate`/foreign cancel commands arrive -/
theorem C14_done (c : Cause) (pre post : List Ev) (h : Ev.cancelCmd true ∉ post) :
    bootstrap (some (finalState (run c (pre ++ .lifetimeExpired :: post)))) = .done := by
  have : run c (pre ++ .lifetimeExpired :: post) = .timeout := by
    rw [run_append]
    -- whatever was recorded before, `_check_lifetime` records 'timeout'
    exact timeout_kept post h
  rw [this]; rfl

/-- **CANCELED when canceled by request** (a cancel command naming the pilot, the
    lifetime not expiring afterwards) -/
theorem C14_canceled (c : Cause) (pre post : List Ev) (h : Ev.lifetimeExpired ∉ post) :
    bootstrap (some (finalState (run c (pre ++ .cancelCmd true :: post)))) = .canceled := by
  have : run c (pre ++ .cancelCmd true :: post) = .cancel := by
    rw [run_append]
    -- whatever was recorded before, `_ctrl_cancel_pilots` records 'cancel'
    exact cancel_kept post h
  rw [this]; rfl

/-- **FAILED otherwise**: no lifetime expiry, no cancel naming the pilot, no
    termination request — whether `finalize` runs (no cause) or the agent dies
    before writing its state -/
theorem C14_failed (evs : List Ev) (h : ∀ e ∈ evs, e = .cancelCmd false) :
    bootstrap (some (finalState (run .none evs))) = .failed ∧ bootstrap none = .failed := by
  rw [run_fixed .none evs (fun e he => by rw [h e he]; rfl)]
  exact ⟨rfl, rfl⟩

/-- **C14, the end is for the right reason even when the last message is lost**: with the order of `Agent_0.finalize` as
    the translator reads it from the source (`Gen.finalizeWritesCauseFirst`: killme.signal is written before the final
    notification and the tear-down), the state the bootstrapper reports is the one the cause calls for - for every cause,
    whether or not the final notification fails under the closing session; so `C14_done`, `C14_canceled` and
    `C14_failed` above hold for such runs too -/
theorem C14_cause_survives_failed_push (c : Cause) (pushFails : Bool) :
    bootstrap (signalAfterFinalize Gen.finalizeWritesCauseFirst pushFails c) = finalState c := by
  have e : Gen.finalizeWritesCauseFirst = true := rfl
  rw [e]; rfl

/-- the order matters: written after the push, a pilot that ran its time and loses its final notification is
    reported FAILED -/
theorem C14_cause_survives_failed_push_witness :
    bootstrap (signalAfterFinalize false true .timeout) = .failed ∧ finalState .timeout = .done
    ∧ bootstrap (signalAfterFinalize true true .timeout) = .done := by decide

/-- **C14, FAILED otherwise - also for the batch system**: with the exit code of the agent collected right after the `wait`
    (`Gen.bootstrapCollectsAgentCode`, read from bootstrap_0.sh), a pilot whose agent died without writing a final state
    ends FAILED and its job carries the agent's exit code: non-zero whenever the agent's was -/
theorem C14_crashed_agent_failed_job (agentCode : Nat) (h : 0 < agentCode) :
    bootstrap none = .failed ∧ jobExit Gen.bootstrapCollectsAgentCode none agentCode = agentCode
    ∧ 0 < jobExit Gen.bootstrapCollectsAgentCode none agentCode := by
  have e : Gen.bootstrapCollectsAgentCode = true := by decide
  rw [e]
  exact ⟨rfl, rfl, h⟩

/-- with an `echo` between the `wait` and `$?` the crashed pilot's job would exit 0 - DONE for the launcher -/
theorem C14_crashed_agent_witness : jobExit false none 3 = 0 ∧ jobExit true none 3 = 3 ∧ jobExit true (some .done) 143 = 0 := by decide

/-! non-vacuity (tests) -/
example : N = 5 := rfl
example : runPilot N (.nf 0) [.nf 2, .nf 1, .nf 2, .done, .nf 3, .failed]
    = (.done, [.nf 1, .nf 2, .nf 2, .nf 3, .nf 4, .done]) := rfl
example : run .none [.cancelCmd false, .lifetimeExpired, .terminateCmd] = .timeout := by decide

end RPVerif.C14
