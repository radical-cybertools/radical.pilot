import RPVerif.Model.RM
import RPVerif.Lemmas.Launch

/-!
# C18 — The pilot offers exactly the nodes it was allocated
-/
namespace RPVerif.C18
open RPVerif.RM List

/-! ## node file -> (host, slots) -/

def hostsOf : List Line → List Name
  | []            => []
  | .host n :: ls => n :: hostsOf ls
  | _ :: ls       => hostsOf ls

theorem countHosts_eq_countKeys (ls : List Line) (acc : List (Name × Nat)) :
    countHosts ls acc = if Line.bad ∈ ls then none else some (Launch.countKeys (hostsOf ls) acc) := by
  induction ls generalizing acc with
  | nil => rfl
  | cons l ls ih =>
    cases l with
    | blank => simp only [countHosts, ih, hostsOf, mem_cons, reduceCtorEq, false_or]
    | bad => simp only [countHosts, mem_cons, true_or, if_true]
    | host n =>
      have : countHosts (.host n :: ls) acc = countHosts ls (Launch.bump n acc) := by
        rw [Launch.bump, apply_ite (countHosts ls), countHosts]
      simp only [this, ih, hostsOf, mem_cons, reduceCtorEq, false_or, Launch.countKeys_cons]

/-- **one entry per allocated host**: the parsed node file names every host of
    the file exactly once (a repeated line does not repeat the host), whatever
    the `cpn`/`smt` arguments; blank lines are not hosts -/
theorem C18_parse (ls : List Line) (cpn smt : Nat) :
    ((parseNodefile ls cpn smt).map Prod.fst).Nodup
    ∧ (∀ n, n ∈ (parseNodefile ls cpn smt).map Prod.fst → n ∈ hostsOf ls)
    ∧ (Line.bad ∉ ls → ∀ n, n ∈ hostsOf ls → n ∈ (parseNodefile ls cpn smt).map Prod.fst) := by
  rw [parseNodefile, countHosts_eq_countKeys]
  by_cases hb : Line.bad ∈ ls
  · simp [hb]
  · have hm (acc : List (Name × Nat)) :
        (acc.map (fun e => (e.1, (if cpn ≠ 0 then cpn else e.2) * (if smt = 0 then 1 else smt)))).map Prod.fst
          = acc.map Prod.fst := by rw [map_map]; rfl
    simp only [if_neg hb, hm]
    have hmem := Launch.mem_keys_countKeys (hostsOf ls) []
    exact ⟨Launch.nodup_keys_countKeys _ [] nodup_nil, fun n hn => by simpa using (hmem n).mp hn,
           fun _ n hn => (hmem n).mpr (Or.inr hn)⟩

/-- with a configured `cores_per_node` every host gets that many slots (times
    the hardware-thread multiplier), however often its line is repeated -/
theorem C18_parse_cpn (ls : List Line) (cpn smt : Nat) (hc : cpn ≠ 0) :
    ∀ e ∈ parseNodefile ls cpn smt, e.2 = cpn * (if smt = 0 then 1 else smt) := by
  unfold parseNodefile
  cases countHosts ls [] with
  | none => simp
  | some acc => intro e he; obtain ⟨x, _, rfl⟩ := mem_map.mp he; simp [hc]

/-! ## (host, slots) -> node list -/

theorem nodeListFrom_eq (nodes : List (Name × Nat)) (gpn start : Nat) :
    nodeListFrom nodes gpn start = (nodes.zipIdx start).map (fun p =>
      { name := p.1.1, index := p.2, cores := replicate p.1.2 .free, gpus := replicate gpn .free }) := by
  induction nodes generalizing start with
  | nil => rfl
  | cons n ns ih => rw [nodeListFrom, ih, zipIdx_cons, map_cons]

/-- **unique indices, configured size**: `_get_node_list` numbers the nodes
    0,1,2,… and gives each the slot count of its host and `gpus_per_node` GPUs -/
theorem C18_node_list (nodes : List (Name × Nat)) (gpn : Nat) :
    ((getNodeList nodes gpn).map (·.index)) = List.range nodes.length
    ∧ ((getNodeList nodes gpn).map (·.index)).Nodup
    ∧ (getNodeList nodes gpn).map (·.name) = nodes.map Prod.fst
    ∧ (getNodeList nodes gpn).map (fun n => n.cores.length) = nodes.map Prod.snd
    ∧ ∀ n ∈ getNodeList nodes gpn, n.gpus.length = gpn := by
  simp only [getNodeList, nodeListFrom_eq, map_map]
  have h1 : (nodes.zipIdx 0).map Prod.snd = List.range nodes.length := by
    rw [range_eq_range']
    exact zipIdx_map_snd 0 nodes
  have h2 {β : Type} (f : Name × Nat → β) : (nodes.zipIdx 0).map (f ∘ Prod.fst) = nodes.map f := by
    rw [← map_map, zipIdx_map_fst]
  refine ⟨h1, h1 ▸ nodup_range, h2 Prod.fst, ?_, fun n hn => ?_⟩
  · rw [← h2 Prod.snd]
    exact map_congr_left (fun p _ => length_replicate)
  · obtain ⟨p, -, rfl⟩ := mem_map.mp hn
    exact length_replicate

/-! ## blocked cores / GPUs -/

theorem markDown_spec (l : List Occ) (blocked : List Nat) :
    (markDown l blocked).length = l.length
    ∧ ∀ i, i < l.length → ((markDown l blocked).getD i .free = .down ↔ (i ∈ blocked ∨ l.getD i .free = .down)) := by
  unfold markDown
  refine ⟨by simp, ?_⟩
  intro i hi
  rw [getD_eq_getElem?_getD, getElem?_map, getElem?_range hi]
  simp only [Option.map_some, Option.getD_some]
  by_cases hb : i ∈ blocked <;> simp [hb]

/-! ## reduction to the requested size, agent and service nodes -/

theorem popN_eq (l : List Node) (k : Nat) :
    popN l k = (l.take (l.length - k), (l.drop (l.length - k)).reverse) := by
  induction k generalizing l with
  | zero => simp [popN]
  | succ k ih =>
    rw [popN]
    rcases eq_nil_or_concat l with rfl | ⟨l', x, rfl⟩
    · simp
    · -- `x` is popped: the cut falls inside `l'`
      have hk : l'.length - k ≤ l'.length := Nat.sub_le _ _
      simp [ih, take_append_of_le_length hk, drop_append_of_le_length hk]

theorem length_popN_fst (l : List Node) (k : Nat) : (popN l k).1.length = l.length - k := by
  simp only [popN_eq, length_take]
  exact Nat.min_eq_left (Nat.sub_le _ _)

theorem length_popN_snd (l : List Node) (k : Nat) (hk : k ≤ l.length) : (popN l k).2.length = k := by
  simp only [popN_eq, length_reverse, length_drop]
  exact Nat.sub_sub_self hk

theorem reachable_sublist (c : Cfg) (nodes : List Node) (reach : List Nat) :
    (reachable c nodes reach).Sublist nodes := by
  unfold reachable
  split
  · exact filter_sublist
  · exact Sublist.refl _

/-- a successful `finish`: the list is cut and dealt out from the end, agent nodes first, then service nodes -/
theorem finish_ok {c : Cfg} {nodes : List Node} {cpn : Nat} {reach : List Nat} {info : Info}
    (h : finish c nodes cpn reach = .ok info) :
    usableCores c cpn ≠ 0
    ∧ info.requestedNodes = reqNodes c cpn ∧ info.coresPerNode = usableCores c cpn ∧ info.gpusPerNode = usableGpus c
    ∧ info.agentNodes.length = c.agentNodes ∧ info.serviceNodes.length = c.serviceNodes
    ∧ info.nodeList ≠ []
    ∧ info.nodeList ++ info.serviceNodes.reverse ++ info.agentNodes.reverse
        = (reachable c (blockNodes c nodes) reach).take (reqNodes c cpn) := by
  -- `h` becomes the seven guards of `finish`, negated, and `info` = the record of the last branch
  simp only [finish, Launch.ite_error_eq_ok, Except.ok.injEq] at h
  generalize (reachable c (blockNodes c nodes) reach).take (reqNodes c cpn) = cut at h ⊢
  obtain ⟨-, -, huc, -, -, hlen, -, rfl⟩ := h
  have ha : c.agentNodes ≤ cut.length :=
    Nat.le_of_lt (Nat.lt_of_le_of_lt (Nat.le_add_right _ _) (Nat.lt_of_not_ge hlen))
  have hs : c.serviceNodes < (popN cut c.agentNodes).1.length := by
    rw [length_popN_fst]
    exact Nat.lt_sub_iff_add_lt'.mpr (Nat.lt_of_not_ge hlen)
  have hne : (popN (popN cut c.agentNodes).1 c.serviceNodes).1 ≠ [] := by
    apply ne_nil_of_length_pos
    rw [length_popN_fst]
    exact Nat.sub_pos_of_lt hs
  refine ⟨huc, rfl, rfl, rfl, length_popN_snd _ _ ha, length_popN_snd _ _ (Nat.le_of_lt hs), hne, ?_⟩
  simp only [popN_eq, reverse_reverse, take_append_drop]

theorem finish_mem {c : Cfg} {nodes : List Node} {cpn : Nat} {reach : List Nat} {info : Info}
    (h : finish c nodes cpn reach = .ok info) {n : Node}
    (hn : n ∈ info.nodeList ++ info.agentNodes ++ info.serviceNodes) :
    n ∈ reachable c (blockNodes c nodes) reach := by
  obtain ⟨-, -, -, -, -, -, -, hall⟩ := finish_ok h
  apply mem_of_mem_take (i := reqNodes c cpn)
  rw [← hall]
  simp only [mem_append, mem_reverse] at hn ⊢
  exact or_right_comm.mp hn

/-- **C18 (final node list)**: whenever initialisation succeeds, the offered
    list is never empty, never longer than the number of nodes the pilot asked
    for (agent and service nodes included), its indices are unique, it shares no
    node with the agent / service lists, and every node of the three lists is an
    allocated node with the blocked cores / GPUs marked -/
theorem C18_final (c : Cfg) (nodes : List Node) (cpn : Nat) (reach : List Nat) (info : Info)
    (hidx : (nodes.map (·.index)).Nodup) (h : finish c nodes cpn reach = .ok info) :
    info.nodeList ≠ []
    ∧ info.nodeList.length + info.agentNodes.length + info.serviceNodes.length ≤ info.requestedNodes
    ∧ info.agentNodes.length = c.agentNodes ∧ info.serviceNodes.length = c.serviceNodes
    ∧ ((info.nodeList ++ info.serviceNodes.reverse ++ info.agentNodes.reverse).map (·.index)).Nodup
    ∧ (∀ n ∈ info.nodeList, n ∉ info.agentNodes ∧ n ∉ info.serviceNodes)
    ∧ (∀ n ∈ info.nodeList ++ info.agentNodes ++ info.serviceNodes,
        ∃ m ∈ nodes, n.index = m.index ∧ n.name = m.name
          ∧ n.cores = markDown m.cores c.blockedCores ∧ n.gpus = markDown m.gpus c.blockedGpus) := by
  obtain ⟨-, hrn, -, -, hag, hsv, hne, hall⟩ := finish_ok h
  have hsub : (info.nodeList ++ info.serviceNodes.reverse ++ info.agentNodes.reverse).Sublist (blockNodes c nodes) :=
    hall ▸ (take_sublist _ _).trans (reachable_sublist c _ reach)
  have hidx' := (hsub.map (·.index)).nodup (by rw [blockNodes, map_map]; exact hidx)
  have hnd : (info.nodeList ++ info.serviceNodes.reverse ++ info.agentNodes.reverse).Nodup :=
    Pairwise.of_map _ (fun _ _ hne e => hne (e ▸ rfl)) hidx'
  refine ⟨hne, ?_, hag, hsv, hidx', fun n hn => ?_, fun n hn => ?_⟩
  · have := congrArg length hall
    rw [length_append, length_append, length_reverse, length_reverse] at this
    rw [hrn, Nat.add_right_comm, this]
    exact length_take_le _ _
  · have h1 := nodup_append.mp hnd
    have h2 := nodup_append.mp h1.1
    exact ⟨fun ha => h1.2.2 n (mem_append_left _ hn) n (mem_reverse.mpr ha) rfl,
           fun hs => h2.2.2 n hn n (mem_reverse.mpr hs) rfl⟩
  · have := (reachable_sublist c _ reach).subset (finish_mem h hn)
    rw [blockNodes] at this
    obtain ⟨m, hm, rfl⟩ := mem_map.mp this
    exact ⟨m, hm, rfl, rfl, rfl, rfl⟩

/-- **with backup nodes only nodes whose reachability probe answered are used** - for tasks, sub-agents
    and services alike; a probe that is refused or hangs (no return code, also after it was cancelled)
    leaves its node out -/
theorem C18_probed (c : Cfg) (nodes : List Node) (cpn : Nat) (reach : List Nat) (info : Info)
    (hb : c.backup ≠ 0) (h : finish c nodes cpn reach = .ok info) :
    ∀ n ∈ info.nodeList ++ info.agentNodes ++ info.serviceNodes, n.name.id ∈ reach := by
  intro n hn
  have := finish_mem h hn
  rw [reachable, if_pos hb] at this
  simpa using (mem_filter.mp this).2

/-! ## PBSPro: nodes from the `exec_vnode` attribute -/

/-- **every vnode of the allocation is offered exactly once**: whatever chunks `exec_vnode` lists
    (a vnode may occur in several chunks, several vnodes in one), the vnode list has no duplicates,
    contains exactly the vnodes named, and every slice has the reported size -/
theorem C18_pbs_vnodes (chunks : List (List (Nat × Nat))) (vn : List Nat) (n : Nat) (h : pbsVnodes chunks = .ok (vn, n)) :
    vn.Nodup
    ∧ (∀ x, x ∈ vn ↔ ∃ c ∈ chunks, ∃ e ∈ c, e.1 = x)
    ∧ (∀ c ∈ chunks, ∀ e ∈ c, e.2 = n) := by
  have hmem (f : Nat × Nat → Nat) (x : Nat) :
      x ∈ Launch.hostSet (chunks.flatten.map f) ↔ ∃ c ∈ chunks, ∃ e ∈ c, f e = x := by
    rw [Launch.mem_hostSet, mem_map]
    constructor
    · rintro ⟨e, he, hx⟩
      obtain ⟨c, hc, hec⟩ := mem_flatten.mp he
      exact ⟨c, hc, e, hec, hx⟩
    · rintro ⟨c, hc, e, hec, hx⟩
      exact ⟨e, mem_flatten.mpr ⟨c, hc, hec⟩, hx⟩
  unfold pbsVnodes at h
  split at h
  · rename_i m hm
    cases h
    refine ⟨Launch.nodup_hostSet _, hmem (·.1), fun c hc e hec => ?_⟩
    have : e.2 ∈ Launch.hostSet (chunks.flatten.map (·.2)) := (hmem (·.2) e.2).mpr ⟨c, hc, e, hec, rfl⟩
    rwa [hm, mem_singleton] at this
  · cases h
  · cases h

/-- the PBSPro node list built from it names every vnode once, with `ncpus` cores -/
theorem C18_pbs_node_list (c : Cfg) (chunks : List (List (Nat × Nat))) (ls : List Line) (hosts : List Name)
    (envCpus : Option Nat) (detected : Nat) (nodes : List Node) (cpn : Nat)
    (hc : c.execVnode = some chunks) (h : initKind .pbspro c ls hosts envCpus detected = .ok (nodes, cpn)) :
    (nodes.map (·.name.id)).Nodup ∧ (∀ x, x ∈ nodes.map (·.name.id) ↔ ∃ ch ∈ chunks, ∃ e ∈ ch, e.1 = x)
    ∧ ∀ nd ∈ nodes, nd.cores.length = cpn := by
  unfold initKind at h
  simp only [hc] at h
  split at h
  · cases h
  · rename_i vn n hp
    cases h
    obtain ⟨hnd, hmem, -⟩ := C18_pbs_vnodes chunks vn cpn hp
    obtain ⟨-, -, hnm, hlen, -⟩ := C18_node_list (vn.map (fun i => (({ id := i } : Name), cpn))) c.gpn
    generalize getNodeList _ _ = nl at hnm hlen ⊢
    have hnames : nl.map (·.name.id) = vn := by
      have hids := congrArg (map Name.id) hnm
      rw [map_map, map_map, map_map] at hids
      exact hids.trans (map_id' vn)
    rw [hnames]
    refine ⟨hnd, hmem, fun nd hnd => ?_⟩
    have : nd.cores.length ∈ nl.map (fun n => n.cores.length) := mem_map.mpr ⟨nd, hnd, rfl⟩
    rw [hlen, map_map] at this
    obtain ⟨_, _, e⟩ := mem_map.mp this
    exact e.symm

/-- **CCM: the node file written last is the one that is read**: the chosen file is one of the
    files found and none of them has a later modification time (metadata changes of an older file
    do not matter) -/
theorem C18_ccm_newest (files : List (Nat × List Line)) (h : files ≠ []) :
    newestFile files ∈ files ∧ ∀ f ∈ files, f.1 ≤ (newestFile files).1 := by
  fun_induction newestFile files with
  | case1 => exact absurd rfl h
  | case2 f fs hlt ih =>
    refine ⟨mem_cons_self, fun g hg => ?_⟩
    rcases mem_cons.mp hg with rfl | hg
    · exact Nat.le_refl _
    · exact Nat.le_of_lt (Nat.lt_of_le_of_lt ((ih (ne_nil_of_mem hg)).2 g hg) hlt)
  | case3 f hnlt =>
    exact ⟨mem_cons_self, fun g hg => by rw [mem_singleton.mp hg]; exact Nat.le_refl _⟩
  | case4 f fs hnlt hfs ih =>
    obtain ⟨hm, hle⟩ := ih hfs
    refine ⟨mem_cons_of_mem _ hm, fun g hg => ?_⟩
    rcases mem_cons.mp hg with rfl | hg
    · exact Nat.le_of_not_lt hnlt
    · exact hle g hg

/-- **Slurm: a configured GPU count is what every node gets**, whatever the batch environment
    reports; the environment is consulted only when nothing is configured -/
theorem C18_slurm_gpus (c : Cfg) (ls : List Line) (hosts : List Name) (envCpus : Option Nat) (detected : Nat)
    (nodes : List Node) (cpn : Nat) (h : initKind .slurm c ls hosts envCpus detected = .ok (nodes, cpn)) :
    (c.gpn ≠ 0 → ∀ nd ∈ nodes, nd.gpus.length = c.gpn)
    ∧ (c.gpn = 0 → ∀ nd ∈ nodes, nd.gpus.length = envGpn c) := by
  unfold initKind at h
  simp only at h
  split at h
  · cases h
  · cases h
    obtain ⟨-, -, -, -, hspec⟩ := C18_node_list (hosts.map (fun h => (h, cpn))) (slurmGpn c)
    refine ⟨fun hg nd hnd => ?_, fun hg nd hnd => ?_⟩
    · rw [hspec nd hnd, slurmGpn, if_pos hg]
    · rw [hspec nd hnd, slurmGpn, if_neg (fun h => h hg)]

/-! ## a node count derived from cores / GPUs -/

theorem ceil_covers (a b : Nat) (hb : 0 < b) : a ≤ ((a + b - 1) / b) * b := by
  have h := Nat.lt_div_mul_add (a := a + b - 1) hb
  exact Nat.le_of_add_le_add_right (Nat.le_of_pred_lt h)

theorem reqNodes_covers (c : Cfg) (cpn : Nat) (hn : c.requestedNodes = 0) (huc : usableCores c cpn ≠ 0) :
    c.requestedCores ≤ reqNodes c cpn * usableCores c cpn
    ∧ (usableGpus c ≠ 0 → c.requestedGpus ≤ reqNodes c cpn * usableGpus c) := by
  have hr : reqNodes c cpn = max ((c.requestedCores + usableCores c cpn - 1) / usableCores c cpn)
      (if usableGpus c ≠ 0 then (c.requestedGpus + usableGpus c - 1) / usableGpus c else 0) := by
    rw [reqNodes, if_neg (fun h => h hn), if_neg huc]
  rw [hr]
  refine ⟨?_, fun hg => ?_⟩
  · exact Nat.le_trans (ceil_covers _ _ (Nat.pos_of_ne_zero huc)) (Nat.mul_le_mul_right _ (Nat.le_max_left _ _))
  · rw [if_pos hg]
    exact Nat.le_trans (ceil_covers _ _ (Nat.pos_of_ne_zero hg)) (Nat.mul_le_mul_right _ (Nat.le_max_right _ _))

/-- **a pilot sized by cores / GPUs gets the nodes it needs**: when no node count is configured, the
    count `_init_from_scratch` derives covers the requested cores and GPUs with what a node can really
    give (blocked cores / GPUs subtracted) - so the offered list is not cut below the allocation the pilot
    was sized for (all resource managers but Fork, which fixes the count before blocked cores are known) -/
theorem C18_derived_covers (c : Cfg) (nodes : List Node) (cpn : Nat) (reach : List Nat) (info : Info)
    (hn : c.requestedNodes = 0) (h : finish c nodes cpn reach = .ok info) :
    c.requestedCores ≤ info.requestedNodes * info.coresPerNode
    ∧ (info.gpusPerNode ≠ 0 → c.requestedGpus ≤ info.requestedNodes * info.gpusPerNode) := by
  obtain ⟨huc, hrn, hcp, hgp, -⟩ := finish_ok h
  rw [hrn, hcp, hgp]
  exact reqNodes_covers c cpn hn huc

/-! ## test vectors -/

example : (pbsVnodes [[(3, 8)], [(3, 8), (1, 8)], [(1, 8)], [(7, 8)]]).toOption = some ([1, 3, 7], 8) := by rfl

example : (initRM .torque ⟨4, 1, 1, 2, 8, 0, 0, [0], [], 1, 0, none, none, 0⟩
      [.host ⟨1, false, false⟩, .blank, .host ⟨2, false, false⟩, .host ⟨1, false, false⟩, .host ⟨3, false, false⟩] [] none 8 []).toOption.map
      (fun i => (i.nodeList.map (fun n => (n.name.id, n.index, n.cores)), i.agentNodes.map (·.name.id)))
    = some ([(1, 0, [.down, .free, .free, .free])], [2]) := by rfl

end RPVerif.C18
