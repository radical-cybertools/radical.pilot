import RPVerif.Lemmas.NodeList
import RPVerif.Lemmas.SchedRun
import RPVerif.Gen.NodeList
import RPVerif.Gen.Exec
import RPVerif.Model.WatchQueue

/-!
# C03 — Released resources come back exactly once and completely
-/
namespace RPVerif.C03
open RPVerif.Sched List

/-- **giving back restores precisely what was taken**: marking a slot BUSY and
    then FREE again leaves the node exactly as it was (cores, GPUs, storage,
    memory), provided the slot named free resources — which every grant does
    (`C01_grant_fits_node`) -/
theorem C03_release_inverse (n : NodeSt) (sl : Slot)
    (hc : ∀ i ∈ sl.cores, n.cores[i]? = some Occ.free)
    (hg : ∀ g ∈ sl.gpus, n.gpus[g.1]? = some Occ.free) :
    applySlot (applySlot n sl true) sl false = n :=
  applySlot_inverse n sl hc hg

/-- while held, the slot's cores read BUSY in the node map and nothing else changed -/
theorem C03_held_is_busy (n : NodeSt) (sl : Slot) (j : Nat) (o : Occ) (hj : n.cores[j]? = some o) :
    (applySlot n sl true).cores[j]? = some (if j ∈ sl.cores then Occ.busy else o) := by
  rw [applySlot_cores, foldSet_get, hj]
  by_cases hin : j ∈ sl.cores
  · rw [if_pos hin, if_pos hin]
    rfl
  · rw [if_neg hin, if_neg hin]

/-- the bookkeeping counter `_active_cnt`: a successful allocation adds one to what `schedule_task` left -/
theorem C03_counter_alloc (c : Cfg) (s s' : SchedSt) (r : Req) (h : tryAllocation c s r = (.ok true, s')) :
    ∃ s1, s'.activeCnt = s1.activeCnt + 1 ∧ (scheduleTask c s r).2 = s1 := by
  revert h
  fun_cases tryAllocation c s r with
  | case1 | case2 | case3 | case4 | case5 | case6 => intro h; cases h
  | case7 slots s1 _ hs ns hc =>
    intro h
    cases h
    exact ⟨s1, rfl, by rw [hs]⟩

/-- a release batch subtracts one per task named by the messages drained from the queue (`C03_drain_lossless`: what the
    bulk limit leaves stays queued) -/
theorem C03_counter_release (s : SchedSt) (msgs : List (List Nat)) :
    (unscheduleCompleted s msgs).1.activeCnt
      = s.activeCnt - (drainUnsched (s.unschedQ ++ msgs) []).1.length
    ∧ (unscheduleCompleted s msgs).1.unschedQ = (drainUnsched (s.unschedQ ++ msgs) []).2 := by
  rw [unscheduleCompleted_fst]
  -- releasing a task touches neither the counter nor the queue
  refine List.foldlRecOn _ releaseOne (motive := fun acc =>
    acc.activeCnt = s.activeCnt - (drainUnsched (s.unschedQ ++ msgs) []).1.length
    ∧ acc.unschedQ = (drainUnsched (s.unschedQ ++ msgs) []).2) ?_ ?_
  · exact ⟨rfl, rfl⟩
  · intro acc hacc u _
    obtain ⟨ns, h, e⟩ := releaseOne_writes acc u
    rw [e]
    exact hacc

/-- **no release message is lost by the bulk limit**: draining takes messages off the
    queue in order; every message is either processed now or stays queued -/
theorem C03_drain_lossless (q : List (List Nat)) (acc : List Nat) :
    (drainUnsched q acc).1 ++ (drainUnsched q acc).2.flatten = acc ++ q.flatten := by
  fun_induction drainUnsched q acc with
  | case1 acc => rfl
  | case2 acc m ms _ => rw [flatten_cons, append_assoc]
  | case3 acc m ms _ ih => rw [ih, flatten_cons, append_assoc]

/-- FULL statement over all histories is FALSE on the current code for
    application-placed tasks (finding F3): they are released but were never
    counted.  Witness on the faithful model: the counter goes negative. -/
theorem C03_app_slots_witness :
    (runLoop { cpn := 1, gpn := 0, lfsPn := 0, memPn := 0 }
        { nodes := [{ index := 0, cores := [.free], gpus := [], lfs := 0, mem := 0 }] } true
        [{ incoming := [.sched [{ uid := 0, ranks := 1, cpr := 1, gpr := 0, lfs := 0, mem := 0,
                                   app := some [{ node := 0, cores := [0], gpus := [], lfs := 0, mem := 0 }] }]],
           unsched := [[0]] }] []).1.activeCnt = -1 := by
  decide

/-! ## the application-level slot finder -/

open RPVerif.NodeList in
/-- giving a slot back to its node restores precisely what was taken: occupations of all cores and
    GPUs, storage and memory -/
theorem C03_nodelist_release_inverse (n : ANode) (s : ASlot) : deallocate (allocate n s) s = n := by
  simp only [allocate, deallocate, addOcc_cancel, Int.sub_add_cancel]

open RPVerif.NodeList in
/-- **a release clears the refusal**: `find_slots` remembers the last request it had to refuse and refuses anything not
    larger at once; every release - of however few slots - forgets it, so after a release a request is judged against
    what is free now: the answer is the one the search gives, never the remembered refusal -/
theorem C03_nodelist_release_clears_refusal (l : NL) (slots : List ASlot) (rr : RR) (n : Nat) :
    (releaseSlots l slots).lastFailed = none ∧ cacheHit (releaseSlots l slots) rr n = false :=
  ⟨rfl, rfl⟩

open RPVerif.NodeList in
/-- **only what is at least as large is refused from memory**: `find_slots` answers from the remembered refusal only
    when the request asks at least as much per rank and at least as many slots as the request that failed; a smaller
    request is always searched for -/
theorem C03_nodelist_refusal_only_for_larger (l : NL) (rr : RR) (n : Nat) (h : cacheHit l rr n = true) :
    ∃ frr fn, l.lastFailed = some (frr, fn) ∧ rrGe rr frr = true ∧ fn ≤ n := by
  unfold cacheHit at h
  split at h
  · rename_i frr fn hl
    rw [Bool.and_eq_true, decide_eq_true_eq] at h
    exact ⟨frr, fn, hl, h.1, h.2⟩
  · cases h

open RPVerif.NodeList in
/-- test: after 3 slots were refused on a pilot that has 2, a single slot on the empty pilot is searched for (the
    comparison `last failed >= request` would refuse it) -/
example : cacheHit { nodes := [], index := 0, lastFailed := some (⟨1, 16, 0, 16, 60, 0⟩, 3), cpn := 2, gpn := 0, lfsPn := 100, memPn := 0 }
    ⟨1, 16, 0, 16, 30, 0⟩ 1 = false := rfl

open RPVerif.NodeList in
/-- **releases from several application threads**: with the code as it is (`Gen.deallocInLock`: `deallocate_slot`
    changes the node inside its lock; `Gen.findSlotBooksInLock`), any interleaving of the threads' requests and
    releases on a node leaves the node the same operations leave one after the other, in the order the lock let them
    in - no release is lost or half applied, so `C03_nodelist_release_inverse` and the history theorems below speak
    about concurrent use as well -/
theorem C03_node_threads (n : ANode) (steps : List CStep) :
    (crun Gen.findSlotBooksInLock Gen.deallocInLock ⟨n, [], [], []⟩ steps).node = (seqCalls n steps).1 :=
  congrArg CState.node (crun_atomic steps n [])

open RPVerif.NodeList in
/-- a release outside the lock can be lost: the thread that releases read the node before another thread's grant and
    writes its stale figures back (here: 100 of lfs granted in between vanish from the node's books) -/
theorem C03_node_threads_witness :
    (crun true false ⟨⟨0, [some 16, some 0], [], 900, 0⟩, [], [], []⟩
       [.release 0 ⟨0, [(0, 16)], [], 100, 0⟩, .call 1 ⟨1, 16, 0, 16, 100, 0⟩, .write 0]).node.lfs = 1000
    ∧ (seqCalls ⟨0, [some 16, some 0], [], 900, 0⟩
       [.release 0 ⟨0, [(0, 16)], [], 100, 0⟩, .call 1 ⟨1, 16, 0, 16, 100, 0⟩, .write 0]).1.lfs = 900 := by decide

/-! ## whole histories of the scheduling loop -/

/-- **the node map shows exactly what is held, after every history**: a core (GPU) is BUSY iff a
    held placement names it or it was BUSY to begin with; everything else is as in the initial map -/
theorem C03_history_map (c : Cfg) (nodes0 : List NodeSt) (its : List Iter) (hw : NodesWF nodes0) (hnn : NonNeg nodes0)
    (hok : RunOK c { nodes := nodes0 } true its) (i : Nat) (n0 n : NodeSt)
    (h0 : nodes0[i]? = some n0) (hn : (runLoop c { nodes := nodes0 } true its []).1.nodes[i]? = some n) :
    n.index = n0.index
    ∧ (∀ x, n.cores[x]? = if x ∈ coresOn (heldSlots (runLoop c { nodes := nodes0 } true its []).1.held) n0.index
                           then some Occ.busy else n0.cores[x]?)
    ∧ (∀ g, n.gpus[g]? = if g ∈ gpusOn (heldSlots (runLoop c { nodes := nodes0 } true its []).1.held) n0.index
                          then some Occ.busy else n0.gpus[g]?)
    ∧ n.lfs = n0.lfs - (lfsOn (heldSlots (runLoop c { nodes := nodes0 } true its []).1.held) n0.index : Nat)
    ∧ n.mem = n0.mem - (memOn (heldSlots (runLoop c { nodes := nodes0 } true its []).1.held) n0.index : Nat) := by
  obtain ⟨hidx, _, mc, mg, tl, tm⟩ :=
    (nodeinv_iff n0 n _).mp ((runLoop_sinv c nodes0 its hw hnn hok).1.node i n0 n h0 hn)
  exact ⟨hidx, marked_get mc, marked_get mg, tl.1, tm.1⟩

/-- **capacity is restored**: after any history, once every placement the scheduler made has been
    released, the node map (cores, GPUs, storage, memory of every node) is the initial one and the
    counter of active tasks is zero -/
theorem C03_history_restored (c : Cfg) (nodes0 : List NodeSt) (its : List Iter) (hw : NodesWF nodes0) (hnn : NonNeg nodes0)
    (hok : RunOK c { nodes := nodes0 } true its)
    (hq : (runLoop c { nodes := nodes0 } true its []).1.held = []) :
    (runLoop c { nodes := nodes0 } true its []).1.nodes = nodes0
    ∧ (runLoop c { nodes := nodes0 } true its []).1.activeCnt = 0 := by
  have hinv := runLoop_sinv c nodes0 its hw hnn hok
  generalize (runLoop c { nodes := nodes0 } true its []).1 = s at hinv hq
  obtain ⟨hI, hc⟩ := hinv
  rw [hq] at hI hc
  exact ⟨hinv_nil nodes0 s.nodes hI, hc⟩

/-! ### a cancelled task gives its resources back also when its process group is gone -/

/-- **C03, released exactly once on cancel**: with every signal of `LaunchMethod.cancel_task` sent under a handler for
    OSError (`Gen.killGuardsGoneProcess`, read from the source), a task that `Popen.cancel_task` has taken out of the
    registry gives its resources back once - whether its process group could still be signalled or not -/
theorem C03_cancel_releases_when_group_gone (groupGone : Bool) :
    WatchQueue.cancelReleases Gen.killGuardsGoneProcess groupGone = 1 := by
  have e : Gen.killGuardsGoneProcess = true := rfl
  rw [e]
  cases groupGone <;> rfl

/-- without the handler a process group that is gone ends cancel_task before the release: nothing comes back -/
theorem C03_cancel_releases_witness :
    WatchQueue.cancelReleases false true = 0 ∧ WatchQueue.cancelReleases false false = 1 := by decide

end RPVerif.C03
