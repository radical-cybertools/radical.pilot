import RPVerif.Model.Raptor
import RPVerif.Gen.Raptor
import RPVerif.Lemmas.Raptor

/-!
# C20 — Raptor workers and masters account for every request
-/
namespace RPVerif.C20
open List RPVerif.Raptor

/-! ## the allocator -/

/-- busy flags and the slots of the running requests -/
structure WS where
  res  : Res
  live : List Slots

def WInv (w : WS) : Prop :=
  AInv w.res.cores (w.live.map (·.cores)) ∧ AInv w.res.gpus (w.live.map (·.gpus))

inductive AOp where
  | accept (cores gpus : Nat)       -- a request arrives (`_alloc`)
  | finish (s : Slots)              -- a running request finishes, fails or times out (`_dealloc`)

/-- a request that must wait or is refused changes nothing -/
def wstep (w : WS) : AOp → WS
  | .accept c g => match alloc w.res c g with
                   | .ok r s => { res := r, live := s :: w.live }
                   | _       => w
  | .finish s   => if s ∈ w.live then
                     (match dealloc w.res s with
                      | some r => { res := r, live := w.live.erase s }
                      | none   => w)
                   else w

theorem wstep_cases (w : WS) (op : AOp) :
    wstep w op = w
    ∨ (∃ c g, wstep w op =
        { res := { cores := setAll w.res.cores (pick w.res.cores 0 c) true, gpus := setAll w.res.gpus (pick w.res.gpus 0 g) true },
          live := { cores := pick w.res.cores 0 c, gpus := pick w.res.gpus 0 g } :: w.live })
    ∨ (∃ s ∈ w.live, wstep w op =
        { res := { cores := setAll w.res.cores s.cores false, gpus := setAll w.res.gpus s.gpus false },
          live := w.live.erase s }) := by
  cases op with
  | accept c g =>
    simp only [wstep]
    cases ha : alloc w.res c g with
    | assertion | wait => exact .inl rfl
    | ok r s =>
      obtain ⟨rfl, rfl, -⟩ := alloc_ok ha
      exact .inr (.inl ⟨c, g, rfl⟩)
  | finish s =>
    simp only [wstep]
    by_cases hs : s ∈ w.live
    · rw [if_pos hs]
      cases hd : dealloc w.res s with
      | none => exact .inl rfl
      | some r =>
        obtain ⟨-, -, rfl⟩ := dealloc_eq_some.mp hd
        exact .inr (.inr ⟨s, hs, rfl⟩)
    · exact .inl (if_neg hs)

theorem winv_step (w : WS) (op : AOp) (h : WInv w) : WInv (wstep w op) := by
  rcases wstep_cases w op with e | ⟨c, g, e⟩ | ⟨s, hs, e⟩ <;> rw [e]
  · exact h
  · exact ⟨ainv_alloc _ _ c h.1, ainv_alloc _ _ g h.2⟩
  · obtain ⟨l1, l2, -, hsplit, herase⟩ := exists_erase_eq hs
    unfold WInv at h ⊢
    rw [hsplit, map_append, map_cons, map_append, map_cons] at h
    rw [herase, map_append, map_append]
    exact ⟨ainv_dealloc _ _ _ _ h.1, ainv_dealloc _ _ _ _ h.2⟩

/-- `_dealloc` never hits its assertion for a live request -/
theorem dealloc_live (w : WS) (s : Slots) (h : WInv w) (hs : s ∈ w.live) : (dealloc w.res s).isSome = true := by
  rw [dealloc_eq_some.mpr ⟨fun _ => ainv_busy h.1 (mem_map_of_mem hs), fun _ => ainv_busy h.2 (mem_map_of_mem hs), rfl⟩]
  rfl

def wrun (w : WS) (ops : List AOp) : WS := ops.foldl wstep w

def winit (ncores ngpus : Nat) : WS :=
  { res := { cores := List.replicate ncores false, gpus := List.replicate ngpus false }, live := [] }

theorem winv_run (ops : List AOp) (w : WS) (h : WInv w) : WInv (wrun w ops) :=
  List.foldlRecOn ops _ h fun w h op _ => winv_step w op h

theorem wlen_step (w : WS) (op : AOp) :
    (wstep w op).res.cores.length = w.res.cores.length ∧ (wstep w op).res.gpus.length = w.res.gpus.length := by
  rcases wstep_cases w op with e | ⟨c, g, e⟩ | ⟨s, -, e⟩ <;> rw [e]
  · exact ⟨rfl, rfl⟩
  · exact ⟨setAll_length _ _ _, setAll_length _ _ _⟩
  · exact ⟨setAll_length _ _ _, setAll_length _ _ _⟩

theorem wlen_run (ops : List AOp) (w : WS) :
    (wrun w ops).res.cores.length = w.res.cores.length ∧ (wrun w ops).res.gpus.length = w.res.gpus.length :=
  List.foldlRecOn (motive := fun w' => w'.res.cores.length = w.res.cores.length ∧ w'.res.gpus.length = w.res.gpus.length)
    ops _ ⟨rfl, rfl⟩ fun w' h op _ => ⟨(wlen_step w' op).1.trans h.1, (wlen_step w' op).2.trans h.2⟩

/-- **C20 (allocator)**, for every stream of requests and every order of completions, failures and
    timeouts: no core and no GPU is in the slots of two running requests, and once every accepted
    request has given its slots back the worker is as it started -/
theorem C20_alloc (nc ng : Nat) (ops : List AOp) :
    let w := wrun (winit nc ng) ops
    (w.live.map (·.cores)).Pairwise (fun a b => ∀ j, j ∈ a → j ∉ b)
    ∧ (w.live.map (·.gpus)).Pairwise (fun a b => ∀ j, j ∈ a → j ∉ b)
    ∧ (w.live = [] → w.res = (winit nc ng).res) := by
  intro w
  have hinv : WInv w := winv_run ops _ ⟨ainv_init nc, ainv_init ng⟩
  refine ⟨hinv.1.2, hinv.2.2, ?_⟩
  intro hl
  obtain ⟨h1, h2⟩ := hinv
  rw [hl] at h1 h2
  have e1 : w.res.cores = replicate nc false := ainv_empty h1 ((wlen_run ops _).1.trans length_replicate)
  have e2 : w.res.gpus = replicate ng false := ainv_empty h2 ((wlen_run ops _).2.trans length_replicate)
  show w.res = { cores := replicate nc false, gpus := replicate ng false }
  rw [← e1, ← e2]

/-- an accepted request got exactly the cores and GPUs it asked for, in ascending order, none of them held by a
    running request -/
theorem C20_alloc_grant (w : WS) (c g : Nat) (r : Res) (s : Slots) (h : WInv w) (ha : alloc w.res c g = .ok r s) :
    s.cores.length = c ∧ s.gpus.length = g
    ∧ (∀ j ∈ s.cores, ∀ s' ∈ w.live, j ∉ s'.cores) ∧ (∀ j ∈ s.gpus, ∀ s' ∈ w.live, j ∉ s'.gpus)
    ∧ s.cores.Pairwise (· < ·) ∧ s.gpus.Pairwise (· < ·) := by
  obtain ⟨_, hs, hc, hg⟩ := alloc_ok ha
  subst hs
  exact ⟨pick_length _ 0 c hc, pick_length _ 0 g hg,
    fun _ hj _ hs' => pick_not_live h.1 hj (mem_map_of_mem hs'), fun _ hj _ hs' => pick_not_live h.2 hj (mem_map_of_mem hs'),
    pick_sorted _ 0 c, pick_sorted _ 0 g⟩

example : (wrun (winit 4 1) [.accept 2 1, .accept 2 0, .accept 1 0, .finish ⟨[0, 1], [0]⟩, .accept 1 1]).live
    = [⟨[0], [0]⟩, ⟨[2, 3], []⟩] := rfl

/-! ## routing and target state -/

/-- exit code 0 and only exit code 0 gives DONE; anything else, also an absent exit code, FAILED -/
theorem C20_target (e : Option Int) : (targetState e = "DONE" ↔ e = some 0) ∧ (targetState e ≠ "DONE" → targetState e = "FAILED") := by
  unfold targetState
  cases e with
  | none => simp
  | some v => by_cases h : v = 0 <;> simp [h]

/-- executable requests go to the pilot's normal execution path, everything else to the workers;
    an executable request the master has seen is scheduled by the agent, not forwarded again (no loop);
    raptor workers themselves are never forwarded -/
theorem C20_route (m : Mode) (seen has : Bool) :
    (masterRoute m = .agent ↔ m = .executable)
    ∧ (masterRoute m = .workers ↔ m ≠ .executable)
    ∧ schedRoute has .executable (masterSeen .executable seen) = .schedule
    ∧ schedRoute has .raptorWorker seen = .schedule
    ∧ (has = true → m ≠ .raptorWorker → seen = false → schedRoute has m seen = .toRaptor)
    ∧ (has = false → schedRoute has m seen = .schedule) := by
  unfold masterRoute masterSeen schedRoute
  refine ⟨?_, ?_, ?_, ?_, ?_, ?_⟩
  · by_cases h : m = .executable <;> simp [h]
  · by_cases h : m = .executable <;> simp [h]
  · simp
  · simp
  · rintro rfl hm rfl
    simp [hm]
  · rintro rfl
    simp

/-! ## the scheduler's raptor backlog -/

/-- **no request is left behind in the scheduler**: after any history of drains, master
    registrations, de-registrations and cancel messages, no request waits for a master that is
    registered, and none waits for "any master" while some master is registered -/
theorem C20_forward (ops : List FOp) :
    FInv (ops.foldl fwdStep { queues := [], backlog := [], delivered := [], failed := [], canceled := [] }) :=
  List.foldlRecOn ops _ ⟨fun _ hm => absurd hm not_mem_nil, fun h => absurd rfl h⟩ fun s h op _ => finv_step s op h

/-- **every request the scheduler is given is accounted for exactly once**: after any history, a
    request is found in exactly as many places (handed to a master, failed, canceled, still waiting)
    as it arrived - once for requests with distinct uids; nothing is duplicated, nothing is lost -/
theorem C20_accounted (ops : List FOp) (t : Nat) :
    cnt (ops.foldl fwdStep { queues := [], backlog := [], delivered := [], failed := [], canceled := [] }) t
      = (arrived ops).count t :=
  Eq.trans (cnt_run ops t _ nodup_nil) (Nat.zero_add _)

/-- ... and the share-out of requests for any master ('*') names registered masters only -/
theorem C20_round_robin_targets (qs ts : List Nat) : ∀ e ∈ roundRobin qs ts, e.1 ∈ qs :=
  rrFrom_fst qs ts 0

/-- requests that waited are handed over when their master registers -/
example : (([FOp.incoming [(some 1, [0]), (none, [1, 2])], .register 1].foldl fwdStep
            { queues := [], backlog := [], delivered := [], failed := [], canceled := [] }).delivered)
          = [(1, 0), (1, 1), (1, 2)] := rfl

/-! ## life cycle of a request inside the worker (code after the repair: `flagCheck = true`) -/

def wpDone : WP → Bool
  | .put | .released | .exited => true
  | _ => false

def wpLock : WP → Bool
  | .hasLock | .put => true
  | _ => false

structure LInv (s : LS) : Prop where
  watcher : s.watcher = true
  flag    : s.doneFlag = wpDone s.wp
  lock    : s.lock = (wpLock s.wp || decide (s.dp = .hasLock))
  excl    : ¬ (wpLock s.wp = true ∧ s.dp = .hasLock)
  count   : s.queued + s.answers = (if wpDone s.wp then 1 else 0) + (if s.wp = .killed then 1 else 0)
  killed  : s.wp = .killed → s.dp = .done
  pool    : s.inPool = decide (s.answers = 0)
  held    : s.held = s.inPool

/-- matching on the state first lets evaluation compute the state once, not once per field -/
instance : (s : LS) → Decidable (LInv s)
  | ⟨wp, dp, lk, df, q, ip, hd, ans, wt⟩ =>
    decidable_of_iff
      (wt = true ∧ df = wpDone wp ∧ lk = (wpLock wp || decide (dp = .hasLock)) ∧ ¬ (wpLock wp = true ∧ dp = .hasLock)
        ∧ q + ans = (if wpDone wp then 1 else 0) + (if wp = .killed then 1 else 0)
        ∧ (wp = .killed → dp = .done) ∧ ip = decide (ans = 0) ∧ hd = ip)
      ⟨fun ⟨h1, h2, h3, h4, h5, h6, h7, h8⟩ => ⟨h1, h2, h3, h4, h5, h6, h7, h8⟩,
       fun h => ⟨h.watcher, h.flag, h.lock, h.excl, h.count, h.killed, h.pool, h.held⟩⟩

theorem linv_init : LInv {} := by decide

theorem linv_bound (s : LS) (h : LInv s) : s.queued + s.answers ≤ 1 := by
  rw [h.count]
  cases s.wp <;> decide

/-- the state `LInv` allows; `a`: the request is answered -/
def lform (wp : WP) (dp : DP) (a : Bool) : LS :=
  { wp, dp, watcher := true,
    lock := wpLock wp || decide (dp = .hasLock),
    doneFlag := wpDone wp,
    queued := (if wpDone wp then 1 else 0) + (if wp = .killed then 1 else 0) - a.toNat,
    answers := a.toNat,
    inPool := !a,
    held := !a }

theorem linv_form (s : LS) (h : LInv s) : ∃ wp dp a, s = lform wp dp a := by
  have hb := linv_bound s h
  obtain ⟨hwatcher, hflag, hlock, -, hcount, -, hpool, hheld⟩ := h
  rcases s with ⟨wp, dp, lk, df, q, ip, hd, ans, wt⟩
  dsimp only at hwatcher hflag hlock hcount hpool hheld hb
  rw [hpool] at hheld
  rw [hwatcher, hflag, hlock, hpool, hheld, Nat.eq_sub_of_add_eq hcount]
  obtain rfl | rfl := Nat.le_one_iff_eq_zero_or_eq_one.mp (Nat.le_trans (Nat.le_add_left ans q) hb)
  · exact ⟨wp, dp, false, rfl⟩
  · exact ⟨wp, dp, true, rfl⟩

/-- The step that matters is the watcher's: a queued result means `answers = 0` (`count`, a sum of at most 1), so the
    pid is still registered (`pool`) and the branch that kills the watcher is not taken. -/
theorem linv_step (s : LS) (c : LChoice) (h : LInv s) : LInv (lstep true s c) := by
  obtain ⟨wp, dp, a, rfl⟩ := linv_form s h
  revert a
  cases c <;> cases wp <;> cases dp <;> decide

theorem linv_run (cs : List LChoice) (s : LS) (h : LInv s) : LInv (lrun true s cs) :=
  List.foldlRecOn cs _ h fun s h c _ => linv_step s c h

/-- at rest: both processes are gone and the result queue is drained -/
def Quiescent (s : LS) : Prop := (s.wp = .exited ∨ s.wp = .killed) ∧ s.dp = .done ∧ s.queued = 0

instance (s : LS) : Decidable (Quiescent s) := by unfold Quiescent; infer_instance

theorem linv_sound (s : LS) (h : LInv s) :
    s.watcher = true ∧ s.answers ≤ 1 ∧ (Quiescent s → s.answers = 1 ∧ s.held = false ∧ s.inPool = false) := by
  have hb := linv_bound s h
  refine ⟨h.watcher, Nat.le_trans (Nat.le_add_left _ _) hb, ?_⟩
  rintro ⟨hw, -, hq⟩
  have ha : s.answers = 1 := by
    have h5 := h.count
    rw [hq, Nat.zero_add] at h5
    rcases hw with hw | hw <;> rw [hw] at h5 <;> exact h5
  rw [h.held, h.pool, ha]
  exact ⟨rfl, rfl, rfl⟩

/-- **C20 (life cycle)**: for every interleaving of the rank process, the dispatch process, the
    timeout and the result watcher, the watcher survives, the request is never answered twice, and
    once everything has come to rest it was answered exactly once and its resources are returned -/
theorem C20_once (cs : List LChoice) :
    (lrun true {} cs).watcher = true ∧ (lrun true {} cs).answers ≤ 1
    ∧ (Quiescent (lrun true {} cs) → (lrun true {} cs).answers = 1 ∧ (lrun true {} cs).held = false
                                      ∧ (lrun true {} cs).inPool = false) :=
  linv_sound _ (linv_run cs {} linv_init)

/-- two schedules that come to rest, without and with the timeout -/
example : Quiescent (lrun true {} [.wp, .wp, .wp, .wp, .dp, .dp, .dp, .watcher]) := by decide
example : Quiescent (lrun true {} [.timeout, .dp, .dp, .watcher]) := by decide

/-- the rank process (four steps), the dispatch process once its join has returned or timed out (three steps), the
    watcher once for each of the two results `lstep` can queue -/
def finishAll : List LChoice := [.wp, .wp, .wp, .wp, .timeout, .dp, .dp, .dp, .watcher, .watcher]

/-- **progress from every reachable state**: wherever the three parties stand - in any state the
    invariant allows, in particular every state reachable by any interleaving - letting them run to their
    end brings the request to rest, answered exactly once, its resources returned -/
theorem C20_progress (s : LS) (h : LInv s) :
    Quiescent (lrun true s finishAll) ∧ (lrun true s finishAll).answers = 1
    ∧ (lrun true s finishAll).held = false ∧ (lrun true s finishAll).watcher = true := by
  -- only that the schedule comes to rest is evaluated; what holds at rest is `linv_sound`
  have hq : Quiescent (lrun true s finishAll) := by
    obtain ⟨wp, dp, a, rfl⟩ := linv_form s h
    revert a
    cases wp <;> cases dp <;> decide
  obtain ⟨hw, -, hr⟩ := linv_sound _ (linv_run finishAll s h)
  exact ⟨hq, (hr hq).1, (hr hq).2.1, hw⟩

/-- ... in particular after any interleaving whatever -/
theorem C20_progress_reachable (cs : List LChoice) :
    Quiescent (lrun true (lrun true {} cs) finishAll) ∧ (lrun true (lrun true {} cs) finishAll).answers = 1 :=
  ⟨(C20_progress _ (linv_run cs {} linv_init)).1, (C20_progress _ (linv_run cs {} linv_init)).2.1⟩

/-- the race the repair removed: the rank process has queued its result and released the lock,
    the join times out before the process has exited.  With the original test (`is_alive()`) a second
    result is queued and the result watcher dies on it; with the recorded flag nothing of the kind -/
theorem C20_race_witness :
    (lrun false {} [.wp, .wp, .timeout, .wp, .dp, .dp, .watcher, .watcher]).watcher = false
    ∧ (lrun true {} [.wp, .wp, .timeout, .wp, .dp, .dp, .watcher, .watcher]).watcher = true
    ∧ (lrun true {} [.wp, .wp, .timeout, .wp, .dp, .dp, .watcher, .watcher]).answers = 1 := by decide

/-! ## starting a request -/

/-- what holds in every reachable state when start and registration share the lock -/
def sinv (s : SS) : Bool :=
  s.watcher
  && (s.plock == (s.rq == .locked || s.rq == .started || s.rq == .registered))
  && (s.started == (s.rq == .started || s.rq == .registered || s.rq == .done))
  && (s.inPool == ((s.rq == .registered || s.rq == .done) && !s.answered))
  && (!s.finished || s.started)
  && (s.finished == (s.queued || s.answered))
  && (!(s.queued && s.answered))
  && (!s.answered || s.rq == .done)
  && (s.held == !s.answered)

/-- the state `sinv` allows -/
def sform (rq : RQ) (queued answered : Bool) : SS :=
  { rq, queued, answered, watcher := true,
    plock := rq == .locked || rq == .started || rq == .registered,
    started := rq == .started || rq == .registered || rq == .done,
    inPool := (rq == .registered || rq == .done) && !answered,
    finished := queued || answered,
    held := !answered }

theorem sinv_form (s : SS) (h : sinv s = true) : ∃ rq q a, s = sform rq q a := by
  rcases s with ⟨rq, pl, st, fi, q, ip, hd, an, wt⟩
  simp only [sinv, Bool.and_eq_true, beq_iff_eq, and_assoc] at h
  -- the fifth, seventh and eighth line of `sinv` are not equations for a field
  obtain ⟨rfl, rfl, rfl, rfl, -, rfl, -, -, rfl⟩ := h
  exact ⟨rq, q, an, rfl⟩

/-- The step that matters is the watcher's: it acts only on a queued result with `_plock` free, that is (`started`,
    `plock`) at `rq = .done`, where the pid is registered. -/
theorem sinv_step (s : SS) (c : SChoice) (h : sinv s = true) : sinv (sstep true s c) = true := by
  obtain ⟨rq, q, a, rfl⟩ := sinv_form s h
  revert q a
  cases c <;> cases rq <;> decide

theorem sinv_run (cs : List SChoice) (s : SS) (h : sinv s = true) : sinv (srun true s cs) = true :=
  List.foldlRecOn (motive := fun s => sinv s = true) cs _ h fun s h c _ => sinv_step s c h

theorem sinv_sound (s : SS) (h : sinv s = true) :
    s.watcher = true
    ∧ (s.rq = .done → s.finished = true → s.queued = false → s.answered = true ∧ s.held = false ∧ s.inPool = false)
    ∧ (s.answered = false → s.held = true) := by
  obtain ⟨rq, q, a, rfl⟩ := sinv_form s h
  refine ⟨rfl, ?_, ?_⟩
  · rintro - hf hq
    obtain rfl : q = false := hq
    obtain rfl : a = true := hf
    exact ⟨rfl, rfl, Bool.and_false _⟩
  · rintro ha
    obtain rfl : a = false := ha
    rfl

/-- **C20 (start)**: with the code as it is (`Gen.startInPoolLock`), for every interleaving of the request
    thread, the dispatch process and the result watcher: the watcher never meets a pid that is not
    registered (it survives), and once the request thread is through, the process has delivered and the
    queue is drained, the request was answered and its cores and GPUs are free again -/
theorem C20_start (cs : List SChoice) :
    (srun Gen.startInPoolLock {} cs).watcher = true
    ∧ ((srun Gen.startInPoolLock {} cs).rq = .done → (srun Gen.startInPoolLock {} cs).finished = true →
       (srun Gen.startInPoolLock {} cs).queued = false →
         (srun Gen.startInPoolLock {} cs).answered = true ∧ (srun Gen.startInPoolLock {} cs).held = false
         ∧ (srun Gen.startInPoolLock {} cs).inPool = false)
    ∧ ((srun Gen.startInPoolLock {} cs).answered = false → (srun Gen.startInPoolLock {} cs).held = true) := by
  have e : Gen.startInPoolLock = true := rfl
  rw [e]
  exact sinv_sound _ (sinv_run cs {} rfl)

/-- the request thread (four steps), the dispatch process and the watcher run to their end -/
def startFinish : List SChoice := [.req, .req, .req, .req, .proc, .watcher]

/-- **progress (start)**: from every state the invariant allows, letting the three parties run to their
    end answers the request and frees its resources -/
theorem C20_start_progress (s : SS) (h : sinv s = true) :
    (srun true s startFinish).answered = true ∧ (srun true s startFinish).held = false
    ∧ (srun true s startFinish).inPool = false ∧ (srun true s startFinish).watcher = true := by
  obtain ⟨rq, q, a, rfl⟩ := sinv_form s h
  revert q a
  cases rq <;> decide

/-- the schedule the lock excludes: with the start outside the lock the process can deliver before its pid
    is registered - the watcher dies, the request is never answered, its resources stay busy -/
theorem C20_start_witness :
    (srun false {} [.req, .proc, .watcher, .req, .req, .req]).watcher = false
    ∧ (srun false {} [.req, .proc, .watcher, .req, .req, .req]).held = true
    ∧ (srun true {} [.req, .req, .proc, .watcher, .req, .req, .watcher]).answered = true := by decide

/-! ## dispatchers -/

/-- exit code 0 exactly when the call succeeded, with its return value and captured output;
    otherwise a non-zero code and the exception (captured output is still returned) -/
theorem C20_dispatch (p : Proc) (te : List (Nat × Nat)) (pl : Payload) (rc : Bool) :
    ((dispatchPy rc p te pl).1.ret = 0 ↔ ∃ v, pl.outcome = .returns v)
    ∧ (∀ v, pl.outcome = .returns v → (dispatchPy rc p te pl).1.val = some v ∧ (dispatchPy rc p te pl).1.exc = none
          ∧ (pl.rebinds = false → (dispatchPy rc p te pl).1.out = pl.out ∧ (dispatchPy rc p te pl).1.err = pl.err))
    ∧ (∀ e, pl.outcome = .raises e → (dispatchPy rc p te pl).1.ret ≠ 0 ∧ (dispatchPy rc p te pl).1.exc = some e
          ∧ (dispatchPy rc p te pl).1.val = none ∧ (pl.rebinds = false → (dispatchPy rc p te pl).1.out = pl.out)) := by
  unfold dispatchPy
  cases pl.outcome with
  | returns v =>
    refine ⟨⟨fun _ => ⟨v, rfl⟩, fun _ => rfl⟩, ?_, ?_⟩
    · rintro _ ⟨rfl⟩
      exact ⟨rfl, rfl, fun hr => by rw [hr]; exact ⟨rfl, rfl⟩⟩
    · exact fun _ he => Outcome.noConfusion he
  | raises e =>
    refine ⟨⟨fun h => absurd h Nat.one_ne_zero, fun ⟨_, h⟩ => Outcome.noConfusion h⟩, ?_, ?_⟩
    · exact fun _ hv => Outcome.noConfusion hv
    · rintro _ ⟨rfl⟩
      exact ⟨Nat.one_ne_zero, rfl, rfl, fun hr => by rw [hr]; rfl⟩

/-- whatever the request changed in the environment or the output streams is undone before the
    next request runs (code after the repair) -/
theorem C20_restore (p : Proc) (te : List (Nat × Nat)) (pl : Payload) : (dispatchPy true p te pl).2 = p := by
  unfold dispatchPy; simp

/-- **C20 (a request that never ran is not a success)**: with the exit code the code sets for the path on which the
    rank process's try block raised (`Gen.rankRaisedExit`), the master files a request under DONE only if its
    dispatcher returned a tuple with exit code 0 - so, with `C20_dispatch`, only if the call returned; a request
    whose sandbox, dispatcher lookup or dispatcher raised is FAILED and carries the exception -/
theorem C20_unrun_request_fails (d : Except Nat Report) :
    (targetState (some (rankResult Gen.rankRaisedExit d).1) = "DONE" → ∃ r, d = .ok r ∧ r.ret = 0)
    ∧ (∀ e, d = .error e → targetState (some (rankResult Gen.rankRaisedExit d).1) = "FAILED"
                           ∧ (rankResult Gen.rankRaisedExit d).2.2 = some e) := by
  have hx : (some Gen.rankRaisedExit : Option Int) ≠ some 0 := by decide
  refine ⟨fun h => ?_, ?_⟩
  · cases d with
    | ok r =>
      -- the exit code of a report is a `Nat`, filed as an `Int`
      exact ⟨r, rfl, Int.ofNat.inj (Option.some.inj ((C20_target _).1.mp h))⟩
    | error e => exact absurd ((C20_target _).1.mp h) hx
  · rintro e rfl
    exact ⟨(C20_target _).2 fun h => hx ((C20_target _).1.mp h), rfl⟩

/-- the exit code matters: were the raised path reported with 0, a request that never ran would be DONE -/
theorem C20_unrun_witness : targetState (some (rankResult 0 (.error 3)).1) = "DONE"
    ∧ targetState (some (rankResult 1 (.error 3)).1) = "FAILED" := ⟨rfl, rfl⟩

/-- a request that is refused before it runs fails and leaves the worker's environment and streams alone -/
theorem C20_unresolved (p : Proc) : (dispatchUnresolved p).2 = p ∧ (dispatchUnresolved p).1.ret ≠ 0 := by
  constructor <;> simp [dispatchUnresolved]

/-- the original restore left what the request had set in the process environment -/
theorem C20_restore_witness :
    (dispatchPy false { env := [], cenv := [], real := true, stdout := 1, stderr := 2 } []
        { out := [], err := [], envEdits := [(1, some 2)], rebinds := false, outcome := .returns 0 }).2.cenv = [(1, 2)] := rfl

/-- child processes: the exit code and the captured output are reported as they are -/
theorem C20_dispatch_proc (out err : List Nat) (code : Nat) :
    (dispatchProc out err code).ret = code ∧ (dispatchProc out err code).out = out ∧ (dispatchProc out err code).err = err := ⟨rfl, rfl, rfl⟩

/-- **process and shell requests do not see each other's environment**: on a worker that serves any
    stream of such requests, the child of request `i` sees the worker's base environment updated by
    request `i`'s own variables only - a variable no request `i` names has its base value, whatever
    earlier requests set -/
theorem C20_proc_env (base : Env) (reqs : List (List (Nat × Nat))) (i : Nat) (r : List (Nat × Nat))
    (hr : reqs[i]? = some r) :
    (procEnvs base reqs)[i]? = some (setMany base r)
    ∧ ∀ k, (∀ kv ∈ r, kv.1 ≠ k) → envGet (setMany base r) k = envGet base k := by
  refine ⟨by simp [procEnvs, hr], fun k hk => envGet_setMany_other r base k hk⟩

end RPVerif.C20
