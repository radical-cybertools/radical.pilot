import RPVerif.Model.Launch
/-! lemmas for C09 and C18 -/
namespace RPVerif.Launch
open List

/-- for `simp only` on a chain of guards `if p₁ then .error e₁ else if p₂ then .error e₂ else .. x` -/
theorem ite_error_eq_ok {ε α : Type} {p : Prop} [Decidable p] {e : ε} {x : Except ε α} {a : α} :
    (if p then .error e else x) = .ok a ↔ ¬ p ∧ x = .ok a := by
  by_cases hp : p <;> simp [hp]

section Count
variable {κ : Type} [DecidableEq κ]

/-- `d[k] += 1` on a dict of counts (`d[k] = 1` for a new key), an association list in insertion order -/
def bump (k : κ) (acc : List (κ × Nat)) : List (κ × Nat) :=
  if acc.any (fun e => e.1 = k) then acc.map (fun e => if e.1 = k then (e.1, e.2 + 1) else e) else acc ++ [(k, 1)]

def countKeys (ks : List κ) (acc : List (κ × Nat)) : List (κ × Nat) := ks.foldl (fun a k => bump k a) acc

theorem countKeys_nil (acc : List (κ × Nat)) : countKeys [] acc = acc := rfl

theorem countKeys_cons (k : κ) (ks : List κ) (acc : List (κ × Nat)) : countKeys (k :: ks) acc = countKeys ks (bump k acc) := rfl

theorem any_key_iff_mem (k : κ) (acc : List (κ × Nat)) : acc.any (fun e => e.1 = k) = true ↔ k ∈ acc.map Prod.fst := by
  simp only [any_eq_true, decide_eq_true_eq, mem_map]

theorem keys_bump (k : κ) (acc : List (κ × Nat)) :
    (bump k acc).map Prod.fst = if k ∈ acc.map Prod.fst then acc.map Prod.fst else acc.map Prod.fst ++ [k] := by
  have hany := any_key_iff_mem k acc
  unfold bump
  by_cases hk : k ∈ acc.map Prod.fst
  · rw [if_pos (hany.mpr hk), if_pos hk, map_map]
    exact map_congr_left (fun e _ => by simp only [Function.comp]; split <;> rfl)
  · rw [if_neg (mt hany.mp hk), if_neg hk, map_append]
    rfl

theorem nodup_keys_bump (k : κ) (acc : List (κ × Nat)) (h : (acc.map Prod.fst).Nodup) :
    ((bump k acc).map Prod.fst).Nodup := by
  rw [keys_bump]
  split
  · exact h
  · rename_i hk
    refine nodup_append.mpr ⟨h, pairwise_singleton _ _, fun a ha b hb hab => hk ?_⟩
    rwa [← mem_singleton.mp hb, ← hab]

theorem mem_keys_bump (k x : κ) (acc : List (κ × Nat)) :
    x ∈ (bump k acc).map Prod.fst ↔ x ∈ acc.map Prod.fst ∨ x = k := by
  rw [keys_bump]
  split
  · rename_i hk
    exact ⟨Or.inl, fun h => h.elim id (fun e => e ▸ hk)⟩
  · simp only [mem_append, mem_singleton]

theorem nodup_keys_countKeys (ks : List κ) (acc : List (κ × Nat)) (h : (acc.map Prod.fst).Nodup) :
    ((countKeys ks acc).map Prod.fst).Nodup :=
  foldlRecOn ks _ (motive := fun a => (a.map Prod.fst).Nodup) h (fun a ha k _ => nodup_keys_bump k a ha)

theorem mem_keys_countKeys (ks : List κ) (acc : List (κ × Nat)) (x : κ) :
    x ∈ (countKeys ks acc).map Prod.fst ↔ x ∈ acc.map Prod.fst ∨ x ∈ ks := by
  induction ks generalizing acc with
  | nil => rw [countKeys_nil, or_iff_left not_mem_nil]
  | cons k ks ih => rw [countKeys_cons, ih, mem_keys_bump, mem_cons, or_assoc]

end Count

theorem countHosts_eq_countKeys (hs : List Host) (acc : List (Host × Nat)) : countHosts hs acc = countKeys hs acc := by
  induction hs generalizing acc with
  | nil => rfl
  | cons h hs ih => rw [countKeys_cons, ← ih, bump, apply_ite (countHosts hs), countHosts]

/-- the ranks a `host:k` list names altogether -/
def total (l : List (Host × Nat)) : Nat := l.foldl (fun a e => a + e.2) 0

theorem total_eq_sum (l : List (Host × Nat)) : total l = (l.map Prod.snd).sum := by
  rw [total, sum_eq_foldl_nat, foldl_map]

theorem total_cons (e : Host × Nat) (l : List (Host × Nat)) : total (e :: l) = e.2 + total l := by
  simp only [total_eq_sum, map_cons, sum_cons]

/-- processes a `host:k` list puts on `h` -/
def hostSum (l : List (Host × Nat)) (h : Host) : Nat := total (l.filter (fun e => e.1 = h))

theorem hostSum_cons (e : Host × Nat) (l : List (Host × Nat)) (h : Host) :
    hostSum (e :: l) h = (if e.1 = h then e.2 else 0) + hostSum l h := by
  unfold hostSum
  by_cases he : e.1 = h
  · rw [filter_cons_of_pos (by simpa using he), total_cons, if_pos he]
  · rw [filter_cons_of_neg (by simpa using he), if_neg he, Nat.zero_add]

theorem hostSum_append (l1 l2 : List (Host × Nat)) (h : Host) :
    hostSum (l1 ++ l2) h = hostSum l1 h + hostSum l2 h := by
  simp only [hostSum, total_eq_sum, filter_append, map_append, sum_append]

/-- the branch of `bump` for a key that is present; one entry is under `k` when the keys are distinct (`hostSum_bump`) -/
theorem hostSum_inc (acc : List (Host × Nat)) (k h : Host) :
    hostSum (acc.map (fun e => if e.1 = k then (e.1, e.2 + 1) else e)) h
      = hostSum acc h + if k = h then (acc.map Prod.fst).count k else 0 := by
  induction acc with
  | nil => simp only [map_nil, count_nil, ite_self, Nat.add_zero]
  | cons e es ih =>
    rw [map_cons, hostSum_cons, hostSum_cons, ih, map_cons, count_cons]
    by_cases he : e.1 = k
    · -- `e` is under `k`: its count and the number of such entries grow by one
      subst he
      simp only [if_true, beq_self_eq_true]
      by_cases hh : e.1 = h
      · simp only [if_pos hh]
        rw [Nat.add_add_add_comm, Nat.add_comm 1]
      · simp only [if_neg hh, Nat.add_zero]
    · -- another key: `e` stays and is not counted
      simp only [if_neg he, beq_eq_false_iff_ne.mpr he, Bool.false_eq_true, if_false, Nat.add_zero, Nat.add_assoc]

theorem hostSum_bump (acc : List (Host × Nat)) (k h : Host) (hn : (acc.map Prod.fst).Nodup) :
    hostSum (bump k acc) h = hostSum acc h + if k = h then 1 else 0 := by
  unfold bump
  by_cases hk : acc.any (fun e => e.1 = k) = true
  · rw [if_pos hk, hostSum_inc, hn.count, if_pos ((any_key_iff_mem k acc).mp hk)]
  · rw [if_neg hk, hostSum_append, hostSum_cons]
    rfl

theorem hostSum_countKeys (hs : List Host) (acc : List (Host × Nat)) (h : Host) (hn : (acc.map Prod.fst).Nodup) :
    hostSum (countKeys hs acc) h = hostSum acc h + hs.count h := by
  induction hs generalizing acc with
  | nil => rfl
  | cons k ks ih =>
    rw [countKeys_cons, ih _ (nodup_keys_bump k acc hn), hostSum_bump acc k h hn, count_cons, Nat.add_assoc,
      Nat.add_comm (ks.count h)]
    simp only [beq_iff_eq]

theorem hostSum_countHosts (hs : List Host) (h : Host) : hostSum (countHosts hs []) h = hs.count h := by
  rw [countHosts_eq_countKeys, hostSum_countKeys hs [] h nodup_nil]
  exact Nat.zero_add _

theorem mem_insertSorted (h x : Host) (l : List Host) : x ∈ insertSorted h l ↔ x = h ∨ x ∈ l := by
  fun_induction insertSorted h l with
  | case1 => simp only [mem_cons, not_mem_nil, or_false]
  | case2 y ys hlt => simp only [mem_cons]
  | case3 ys hnlt => simp only [mem_cons, or_self_left]
  | case4 y ys hnlt hne ih => rw [mem_cons, ih, mem_cons, or_left_comm]

theorem pairwise_insertSorted (h : Host) (l : List Host) (hs : l.Pairwise (· < ·)) :
    (insertSorted h l).Pairwise (· < ·) := by
  fun_induction insertSorted h l with
  | case1 => exact pairwise_singleton _ _
  | case2 y ys hlt =>
    refine pairwise_cons.mpr ⟨fun z hz => ?_, hs⟩
    rcases mem_cons.mp hz with rfl | hz
    · exact hlt
    · exact Nat.lt_trans hlt ((pairwise_cons.mp hs).1 z hz)
  | case3 ys hnlt => exact hs
  | case4 y ys hnlt hne ih =>
    obtain ⟨hy, hys⟩ := pairwise_cons.mp hs
    refine pairwise_cons.mpr ⟨fun z hz => ?_, ih hys⟩
    rcases (mem_insertSorted h z ys).mp hz with rfl | hz
    · exact Nat.lt_of_le_of_ne (Nat.le_of_not_lt hnlt) (Ne.symm hne)
    · exact hy z hz

theorem mem_hostSet (hs : List Host) (x : Host) : x ∈ hostSet hs ↔ x ∈ hs := by
  suffices ∀ acc, x ∈ hs.foldl (fun acc h => insertSorted h acc) acc ↔ x ∈ acc ∨ x ∈ hs by
    simpa only [hostSet, not_mem_nil, false_or] using this []
  induction hs with
  | nil => simp only [foldl_nil, not_mem_nil, or_false, implies_true]
  | cons y ys ih => intro acc; rw [foldl_cons, ih, mem_insertSorted, mem_cons, or_assoc, or_left_comm]

theorem pairwise_hostSet (hs : List Host) : (hostSet hs).Pairwise (· < ·) :=
  foldlRecOn hs _ (motive := fun acc => acc.Pairwise (· < ·)) Pairwise.nil (fun acc hacc y _ => pairwise_insertSorted y acc hacc)

/-- strictly increasing: no host is named twice -/
def StrictSorted : List Host → Prop
  | [] => True
  | [_] => True
  | x :: y :: l => x < y ∧ StrictSorted (y :: l)

theorem strictSorted_iff_pairwise (l : List Host) : StrictSorted l ↔ l.Pairwise (· < ·) := by
  induction l with
  | nil => simp only [StrictSorted, Pairwise.nil]
  | cons x xs ih =>
    cases xs with
    | nil => simp only [StrictSorted, pairwise_singleton]
    | cons y ys =>
      rw [StrictSorted, ih, pairwise_cons (a := x)]
      refine and_congr_left (fun hys => ⟨fun hxy z hz => ?_, fun hx => hx y mem_cons_self⟩)
      rcases mem_cons.mp hz with rfl | hz
      · exact hxy
      · exact Nat.lt_trans hxy ((pairwise_cons.mp hys).1 z hz)

theorem strictSorted_hostSet (hs : List Host) : StrictSorted (hostSet hs) :=
  (strictSorted_iff_pairwise _).mpr (pairwise_hostSet hs)

theorem nodup_hostSet (hs : List Host) : (hostSet hs).Nodup :=
  (pairwise_hostSet hs).imp Nat.ne_of_lt

end RPVerif.Launch
