import RPVerif.Model.WatchQueue
import RPVerif.Lemmas.ListAux
namespace RPVerif.WatchQueue

/-- how often task `t` is anywhere in the watcher's hands -/
def cnt (w : WQ) (t : Nat) : Nat := w.queue.count t + w.watching.count t + w.done.count t

theorem pass_cnt (limit : Nat) (w : WQ) (exited : Nat → Bool) (t : Nat) : cnt (pass limit w exited) t = cnt w t := by
  -- the tasks looked at are split into those still running and those collected, the queue into taken and left
  have h1 := ListAux.count_filter_add exited (w.watching ++ w.queue.take limit) t
  have h2 : (w.queue.take limit ++ w.queue.drop limit).count t = w.queue.count t := by rw [List.take_append_drop]
  simp only [cnt, pass, List.count_append] at h1 h2 ⊢
  omega

theorem enqueue_cnt (w : WQ) (ts : List Nat) (t : Nat) : cnt (enqueue w ts) t = cnt w t + ts.count t := by
  simp only [cnt, enqueue, List.count_append]
  ac_rfl

/-- everything put on the queue so far -/
def enqueued : List Op → List Nat
  | []              => []
  | .enq ts :: rest => ts ++ enqueued rest
  | .pass _ :: rest => enqueued rest

theorem run_cons (limit : Nat) (w : WQ) (op : Op) (rest : List Op) :
    run limit w (op :: rest) = run limit (step limit w op) rest := rfl

theorem run_cnt (limit : Nat) (w : WQ) (ops : List Op) (t : Nat) :
    cnt (run limit w ops) t = cnt w t + (enqueued ops).count t := by
  induction ops generalizing w with
  | nil => rfl
  | cons op rest ih =>
    rw [run_cons, ih]
    cases op with
    | enq ts => rw [step, enqueue_cnt, enqueued, List.count_append, Nat.add_assoc]
    | pass ex => rw [step, pass_cnt, enqueued]

end RPVerif.WatchQueue
