import RPVerif.Model.Exec

/-! `Inv` counts one ownership token: in `_tasks`, with the thread that took the uid out, or handed on.  `Live`: a launched
    task nobody has taken keeps its handle and its place on the watch list, so a quiescent state cannot have left it behind. -/
namespace RPVerif.Exec
open List

/-- past the membership test at `c2`: this invocation has taken the uid out of `_tasks` and has to finish the task -/
def CPc.owner : CPc → Bool
  | .c3 | .c4 | .c5 => true
  | _ => false

def b2n : Bool → Nat
  | true  => 1
  | false => 0

def ownersI (s : ES) : Nat := match s.intake with | .iCancel c => b2n c.owner | _ => 0
def ownersW (s : ES) : Nat := match s.watcher with | .w4 _ => 1 | _ => 0
def ownersC (s : ES) : Nat := s.cancels.countP CPc.owner

def owners (s : ES) : Nat := ownersI s + ownersW s + ownersC s

def tok (s : ES) : Nat := b2n s.inTasks + owners s + s.handed

def inlineNext (c : CPc) : IPc := if c = .cDone then .iDone else .iCancel c

/-- The requests from outside carry their choice, for statements about schedules without them. -/
theorem step_cases {motive : ES → Prop} (s : ES) (ch : Choice) (stay : motive s)
    (i0 : s.intake = .i0 → motive { s with intake := .i1, started := s.started + 1, inTasks := true })
    (i1 : s.intake = .i1 → motive { s with intake := .i2, proc := .running, procKey := true })
    (i2 : s.intake = .i2 → motive { s with intake := .i3, armed := true, watching := true })
    (i3m : s.intake = .i3 → s.mark = true →
      motive { s with intake := .iCancel .c0, mark := false, canceledPub := s.canceledPub + 1 })
    (i3 : s.intake = .i3 → s.mark = false → motive { s with intake := .iDone })
    (inline : ∀ c, s.intake = .iCancel c → motive { cancelSt s c with intake := inlineNext (cancelPc s c) })
    (iFault : s.intake = .iFault →
      motive { s with intake := .iDone, unsched := s.unsched + 1, failed := s.failed + 1 })
    (raises : s.intake = .i1 → motive { s with intake := .iFault })
    (wIdle : s.watcher = .wIdle → s.watching = true → motive { s with watcher := .w0 })
    (w0 : s.watcher = .w0 → s.procKey = true → motive { s with watcher := .w1 })
    (w0drop : s.watcher = .w0 → s.procKey = false → motive { s with watcher := .wIdle, watching := false })
    (w1 : s.watcher = .w1 → ∀ c, s.proc = .exited c → motive { s with watcher := .w2b c, watching := false })
    (w1back : s.watcher = .w1 → motive { s with watcher := .wIdle })
    (w2b : ∀ c, s.watcher = .w2b c → motive { s with watcher := .w3 c, procKey := false })
    (w3 : ∀ c, s.watcher = .w3 c → s.inTasks = true →
      motive { s with watcher := .w4 c, inTasks := false, outcome := some (if c = 0 then .done else .failedExit) })
    (w3back : ∀ c, s.watcher = .w3 c → s.inTasks = false → motive { s with watcher := .wIdle })
    (w4 : ∀ c, s.watcher = .w4 c →
      motive { s with watcher := .wIdle, unsched := s.unsched + 1, handed := s.handed + 1 })
    (cancel : ∀ i c, s.cancels[i]? = some c →
      motive { cancelSt s c with cancels := s.cancels.set i (cancelPc s c) })
    (exit : ∀ code, s.proc = .running → motive { s with proc := .exited code })
    (req : ch = .cancelReq → s.inTasks = true → motive { s with mark := true, cancels := s.cancels ++ [.c0] })
    (reqMark : ch = .cancelReq → s.inTasks = false → motive { s with mark := true })
    (timeout : ch = .timeout → s.armed = true → motive { s with cancels := s.cancels ++ [.c0] }) :
    motive (step s ch) := by
  cases ch with
  | intake =>
    dsimp only [step]
    cases h : s.intake with
    | i0 => exact i0 h
    | i1 => exact i1 h
    | i2 => exact i2 h
    | i3 =>
      dsimp only
      by_cases hm : s.mark = true
      · rw [if_pos hm]
        exact i3m h hm
      · rw [if_neg hm]
        exact i3 h (Bool.eq_false_iff.mpr hm)
    | iCancel c =>
      dsimp only
      have hc := inline c h
      unfold inlineNext at hc
      by_cases hd : cancelPc s c = .cDone
      · rw [if_pos hd] at hc ⊢
        exact hc
      · rw [if_neg hd] at hc ⊢
        exact hc
    | iFault => exact iFault h
    | iDone => exact stay
  | intakeFault =>
    dsimp only [step]
    cases h : s.intake with
    | i1 => exact raises h
    | _ => exact stay
  | watcher =>
    dsimp only [step]
    cases h : s.watcher with
    | wIdle =>
      dsimp only
      by_cases hw : s.watching = true
      · rw [if_pos hw]
        exact wIdle h hw
      · rw [if_neg hw]
        exact stay
    | w0 =>
      dsimp only
      by_cases hk : s.procKey = true
      · rw [if_pos hk]
        exact w0 h hk
      · rw [if_neg hk]
        exact w0drop h (Bool.eq_false_iff.mpr hk)
    | w1 =>
      dsimp only
      split
      · next c hp => exact w1 h c hp
      · exact w1back h
    | w2b c => exact w2b c h
    | w3 c =>
      dsimp only
      by_cases hin : s.inTasks = true
      · rw [if_pos hin]
        exact w3 c h hin
      · rw [if_neg hin]
        exact w3back c h (Bool.eq_false_iff.mpr hin)
    | w4 c => exact w4 c h
  | cancel i =>
    dsimp only [step]
    cases h : s.cancels[i]? with
    | none => exact stay
    | some c => exact cancel i c h
  | exit code =>
    dsimp only [step]
    cases h : s.proc with
    | running => exact exit code h
    | _ => exact stay
  | cancelReq =>
    dsimp only [step]
    by_cases h : s.inTasks = true
    · rw [if_pos h]
      exact req rfl h
    · rw [if_neg h]
      exact reqMark rfl (Bool.eq_false_iff.mpr h)
  | timeout =>
    dsimp only [step]
    by_cases h : s.armed = true
    · rw [if_pos h]
      exact timeout rfl h
    · rw [if_neg h]
      exact stay

theorem run_induction {motive : ES → Prop} (cs : List Choice) {s : ES} (h : motive s)
    (hstep : ∀ s, motive s → ∀ c ∈ cs, motive (step s c)) : motive (run s cs) :=
  foldlRecOn cs step h hstep

theorem cancelSt_frame (s : ES) (c : CPc) :
    (cancelSt s c).intake = s.intake ∧ (cancelSt s c).watcher = s.watcher ∧ (cancelSt s c).cancels = s.cancels
    ∧ (cancelSt s c).started = s.started ∧ (cancelSt s c).failed = s.failed ∧ (cancelSt s c).watching = s.watching
    ∧ (cancelSt s c).mark = s.mark ∧ (cancelSt s c).canceledPub = s.canceledPub := by
  cases c <;> simp only [cancelSt, and_self]
  split <;> simp only [and_self]

theorem cancelSt_started (s : ES) (c : CPc) : (cancelSt s c).started = s.started := by
  simp only [cancelSt_frame]

theorem cancelSt_canceledPub (s : ES) (c : CPc) : (cancelSt s c).canceledPub = s.canceledPub := by
  simp only [cancelSt_frame]

theorem cancelSt_unsched_eq (s : ES) (c : CPc) (h : s.unsched = s.handed + s.failed) :
    (cancelSt s c).unsched = (cancelSt s c).handed + (cancelSt s c).failed := by
  cases c with
  | c2 =>
    unfold cancelSt
    by_cases hin : s.inTasks = true
    · rw [if_pos hin]
      exact h
    · rw [if_neg hin]
      exact h
  | c5 =>
    show s.unsched + 1 = s.handed + 1 + s.failed
    rw [h, Nat.add_right_comm]
  | _ => exact h

/-- the token moves from `_tasks` to the invocation at `c2`, from there to `handed` at `c5` -/
theorem cancel_token (s : ES) (c : CPc) :
    b2n (cancelSt s c).inTasks + b2n (cancelPc s c).owner + (cancelSt s c).handed
      = b2n s.inTasks + b2n c.owner + s.handed := by
  cases c with
  | c0 =>
    unfold cancelPc
    cases s.procKey <;> rfl
  | c1 =>
    unfold cancelPc
    cases s.proc.isExited <;> rfl
  | c2 =>
    unfold cancelPc cancelSt
    by_cases h : s.inTasks = true
    · rw [if_pos h, if_pos h, h]
      rfl
    · rw [if_neg h, if_neg h]
      rfl
  | c5 => exact Nat.add_right_comm (b2n s.inTasks) s.handed 1
  | _ => rfl

theorem countP_owner_set (l : List CPc) (i : Nat) (c c' : CPc) (h : l[i]? = some c) :
    (l.set i c').countP CPc.owner + b2n c.owner = l.countP CPc.owner + b2n c'.owner := by
  induction l generalizing i with
  | nil => cases h
  | cons x xs ih =>
    cases i with
    | zero =>
      obtain rfl : x = c := Option.some.inj h
      rw [set_cons_zero, countP_cons, countP_cons]
      cases x.owner <;> cases c'.owner <;> rfl
    | succ j =>
      rw [set_cons_succ, countP_cons, countP_cons, Nat.add_right_comm, ih j h, Nat.add_right_comm]

theorem owners_early (l : List CPc) (h : ∀ c ∈ l, c = .c0 ∨ c = .cDone) : l.countP CPc.owner = 0 := by
  apply countP_eq_zero.mpr
  intro c hc
  rcases h c hc with rfl | rfl <;> simp [CPc.owner]

/-- past the spawn; `iDone` is also reached from `iFault` without one, told apart by `failed = 1` (`Inv.inert`) -/
def spawnedPc : IPc → Bool
  | .i2 | .i3 | .iCancel _ | .iDone => true
  | _ => false

theorem ne_of_spawnedPc {ip : IPc} (h : spawnedPc ip = true) : ip ≠ .i0 ∧ ip ≠ .i1 := by
  constructor <;> (rintro rfl; cases h)

/-- nothing can take the task out of `_tasks`: no handle, the watcher idle, every invocation at `c0` (where it returns: no
    handle) or done.  Over the six fields it reads: a step writing none of them keeps it by computation (`inv_step`). -/
structure InertOf (key watching : Bool) (wp : WPc) (cs : List CPc) (inTasks : Bool) (started : Nat) : Prop where
  procKey  : key = false
  watching : watching = false
  watcher  : wp = .wIdle
  cancels  : ∀ c ∈ cs, c = .c0 ∨ c = .cDone
  held     : b2n inTasks = started

abbrev Inert (s : ES) : Prop := InertOf s.procKey s.watching s.watcher s.cancels s.inTasks s.started

theorem Inert.cancel_returns {s : ES} (hn : Inert s) {c : CPc} (hc : c = .c0 ∨ c = .cDone) :
    cancelSt s c = s ∧ cancelPc s c = .cDone := by
  rcases hc with rfl | rfl
  · exact ⟨rfl, by rw [cancelPc, hn.procKey]; rfl⟩
  · exact ⟨rfl, rfl⟩

/-- One token from the announcement of the start (leaving `i0`) on; every release goes with a hand-over or with the one
    FAILED of a launch error; before the spawn and after a launch error the state is inert. -/
structure Inv (s : ES) : Prop where
  started_eq     : s.started = if s.intake = .i0 then 0 else 1
  tok_eq         : tok s = s.started
  unsched_eq     : s.unsched = s.handed + s.failed
  failed_at_done : s.failed ≤ if s.intake = .iDone then 1 else 0
  inert          : spawnedPc s.intake = false ∨ s.failed = 1 → Inert s

theorem inv_init : Inv {} where
  started_eq     := rfl
  tok_eq         := rfl
  unsched_eq     := rfl
  failed_at_done := Nat.le_refl 0
  inert _        := ⟨rfl, rfl, rfl, fun _ hc => absurd hc not_mem_nil, rfl⟩

theorem tok_cancelSt {s s' : ES} {c : CPc} (hin : s'.inTasks = (cancelSt s c).inTasks)
    (hh : s'.handed = (cancelSt s c).handed)
    (ho : owners s' + b2n c.owner = owners s + b2n (cancelPc s c).owner) : tok s' = tok s := by
  have := cancel_token s c
  unfold tok
  rw [hin, hh]
  omega

theorem inlineNext_spec (c : CPc) :
    spawnedPc (inlineNext c) = true ∧ (match inlineNext c with | .iCancel c' => b2n c'.owner | _ => 0) = b2n c.owner := by
  cases c <;> exact ⟨rfl, rfl⟩

theorem eq_of_inlineNext {c c' : CPc} (h : inlineNext c = .iCancel c') : c' = c := by
  unfold inlineNext at h
  by_cases hd : c = .cDone
  · rw [if_pos hd] at h
    cases h
  · rw [if_neg hd] at h
    exact (IPc.iCancel.inj h).symm

theorem Inv.inline {s : ES} (h : Inv s) {c : CPc} (hi : s.intake = .iCancel c) :
    Inv { cancelSt s c with intake := inlineNext (cancelPc s c) } := by
  have hst : s.started = 1 := by
    rw [h.started_eq, hi]
    rfl
  have hf : s.failed = 0 := by
    have := h.failed_at_done
    rw [hi] at this
    exact Nat.le_zero.mp this
  obtain ⟨hsp, hip⟩ := inlineNext_spec (cancelPc s c)
  refine ⟨?_, ?_, cancelSt_unsched_eq s c h.unsched_eq, ?_, fun hx => ?_⟩
  · exact (cancelSt_started s c).trans (hst.trans (if_neg (ne_of_spawnedPc hsp).1).symm)
  · refine (tok_cancelSt (s := s) (c := c) ?_ ?_ ?_).trans (h.tok_eq.trans (cancelSt_started s c).symm)
    · rfl
    · rfl
    · simp only [owners, ownersI, ownersW, ownersC, cancelSt_frame, hi]
      rw [hip]
      ac_rfl
  · simp only [cancelSt_frame, hf, Nat.zero_le]
  · simp only [cancelSt_frame, hf, hsp] at hx
    exact hx.elim Bool.noConfusion Nat.noConfusion

theorem Inv.cancel {s : ES} (h : Inv s) {i : Nat} {c : CPc} (hc : s.cancels[i]? = some c) :
    Inv { cancelSt s c with cancels := s.cancels.set i (cancelPc s c) } := by
  refine ⟨?_, ?_, cancelSt_unsched_eq s c h.unsched_eq, ?_, fun hx => ?_⟩
  · simpa only [cancelSt_frame] using h.started_eq
  · refine (tok_cancelSt (s := s) (c := c) ?_ ?_ ?_).trans (h.tok_eq.trans (cancelSt_started s c).symm)
    · rfl
    · rfl
    · simp only [owners, ownersI, ownersW, ownersC, cancelSt_frame]
      rw [Nat.add_assoc, countP_owner_set s.cancels i c (cancelPc s c) hc, ← Nat.add_assoc]
  · simpa only [cancelSt_frame] using h.failed_at_done
  · have hn := h.inert (by simpa only [cancelSt_frame] using hx)
    obtain ⟨e1, e2⟩ := hn.cancel_returns (hn.cancels c (mem_of_getElem? hc))
    rw [e1, e2]
    exact ⟨hn.procKey, hn.watching, hn.watcher,
      fun x hx => (mem_or_eq_of_mem_set hx).elim (hn.cancels x) Or.inr, hn.held⟩

theorem inv_step (s : ES) (ch : Choice) (h : Inv s) : Inv (step s ch) := by
  -- destructured, so that a guard such as `s.watcher = .w0` can be substituted
  obtain ⟨inTasks, procKey, proc, mark, watching, armed, intake, watcher, cancels, started, unsched, handed, failed,
    canceledPub, outcome⟩ := s
  have ⟨hst, htok, hu, hf, hin⟩ := h
  apply step_cases _ ch
  case inline => exact fun c hi => h.inline hi
  case cancel => exact fun i c hc => h.cancel hc
  case stay => exact h
  case i0 =>
    rintro rfl
    have hn := hin (.inl rfl)
    obtain rfl : started = 0 := hst
    refine ⟨rfl, ?_, hu, hf, fun _ => ⟨hn.procKey, hn.watching, hn.watcher, hn.cancels, rfl⟩⟩
    simp only [tok, owners, ownersI, ownersW, ownersC, b2n] at htok ⊢
    omega
  case i1 | i2 | i3m | i3 =>
    rintro rfl
    intros
    obtain rfl : failed = 0 := Nat.le_zero.mp hf
    exact ⟨hst, htok, hu, Nat.zero_le _, fun hx => hx.elim Bool.noConfusion Nat.noConfusion⟩
  case iFault =>
    rintro rfl
    obtain rfl : failed = 0 := Nat.le_zero.mp hf
    exact ⟨hst, htok, congrArg (· + 1) hu, Nat.le_refl 1, fun _ => hin (.inl rfl)⟩
  case raises =>
    rintro rfl
    exact ⟨hst, htok, hu, hf, fun _ => hin (.inl rfl)⟩
  -- the watcher moves only in a state that is not inert
  case wIdle =>
    rintro rfl rfl
    exact ⟨hst, htok, hu, hf, fun hx => Bool.noConfusion (hin hx).watching⟩
  case w0 | w0drop | w1 | w1back =>
    rintro rfl
    intros
    exact ⟨hst, htok, hu, hf, fun hx => WPc.noConfusion (hin hx).watcher⟩
  case w2b | w3back =>
    rintro c rfl
    intros
    exact ⟨hst, htok, hu, hf, fun hx => WPc.noConfusion (hin hx).watcher⟩
  case w3 =>
    rintro c rfl rfl
    refine ⟨hst, ?_, hu, hf, fun hx => WPc.noConfusion (hin hx).watcher⟩
    rw [← htok]
    simp only [tok, owners, ownersI, ownersW, ownersC, b2n]
    ac_rfl
  case w4 =>
    rintro c rfl
    refine ⟨hst, ?_, by rw [hu, Nat.add_right_comm], hf, fun hx => WPc.noConfusion (hin hx).watcher⟩
    rw [← htok]
    simp only [tok, owners, ownersI, ownersW, ownersC]
    ac_rfl
  case exit | reqMark =>
    intros
    exact ⟨hst, htok, hu, hf, hin⟩
  case req | timeout =>
    intros
    refine ⟨hst, ?_, hu, hf, fun hx => ?_⟩
    · rw [← htok]
      unfold tok owners ownersC
      rw [countP_append]
      rfl
    · have hn := hin hx
      exact ⟨hn.procKey, hn.watching, hn.watcher,
        fun c hc => (mem_append.mp hc).elim (hn.cancels c) fun e => .inl (mem_singleton.mp e), hn.held⟩

theorem inv_run (cs : List Choice) (s : ES) (h : Inv s) : Inv (run s cs) :=
  run_induction cs h fun s hs c _ => inv_step s c hs

theorem ite_le_one {c : Prop} [Decidable c] {a b : Nat} (ha : a ≤ 1) (hb : b ≤ 1) : (if c then a else b) ≤ 1 := by
  by_cases h : c
  · rwa [if_pos h]
  · rwa [if_neg h]

theorem Inv.started_le {s : ES} (h : Inv s) : s.started ≤ 1 :=
  h.started_eq ▸ ite_le_one (Nat.zero_le 1) (Nat.le_refl 1)

theorem Inv.failed_le_one {s : ES} (h : Inv s) : s.failed ≤ 1 :=
  Nat.le_trans h.failed_at_done (ite_le_one (Nat.le_refl 1) (Nat.zero_le 1))

theorem Inv.tok_le_one {s : ES} (h : Inv s) : b2n s.inTasks + owners s + s.handed ≤ 1 := by
  show tok s ≤ 1
  rw [h.tok_eq]
  exact h.started_le

theorem Inv.handed_of_failed {s : ES} (h : Inv s) (hf : s.failed = 1) : s.handed = 0 := by
  have h1 := (h.inert (.inr hf)).held
  have h2 := h.tok_eq
  unfold tok at h2
  omega

theorem Inv.single_owner {s : ES} (h : Inv s) : owners s + s.handed ≤ 1 := by
  have := h.tok_le_one
  omega

theorem Inv.safety {s : ES} (h : Inv s) :
    s.started ≤ 1 ∧ s.handed + s.failed ≤ 1 ∧ s.unsched ≤ 1 ∧ s.unsched = s.handed + s.failed := by
  have h1 := h.single_owner
  have h2 := h.failed_le_one
  have h3 := h.unsched_eq
  have h4 := h.handed_of_failed
  have : s.handed + s.failed ≤ 1 := by omega
  exact ⟨h.started_le, this, h3 ▸ this, h3⟩

theorem Inv.not_inTasks {s : ES} (h : Inv s) (ho : 0 < owners s) : s.inTasks = false := by
  have h1 := h.tok_le_one
  cases hin : s.inTasks
  · rfl
  · rw [hin] at h1
    have : b2n true = 1 := rfl
    omega

/-- the intake thread has put the task on the watcher's queue -/
def queuedPc : IPc → Bool
  | .i3 | .iCancel _ | .iDone => true
  | _ => false

/-- the watcher has deleted the process handle itself -/
def deletedKey : WPc → Bool
  | .w3 _ => true
  | _ => false

/-- exit seen, task dropped from the watch list, membership not yet tested -/
def sawExit : WPc → Bool
  | .w2b _ | .w3 _ => true
  | _ => false

/-- second disjuncts: the watcher has removed the handle / the list entry itself and is about to collect the task -/
structure Live (s : ES) : Prop where
  key   : spawnedPc s.intake = true → s.failed = 0 → s.inTasks = true → s.procKey = true ∨ deletedKey s.watcher = true
  watch : queuedPc s.intake = true → s.failed = 0 → s.inTasks = true → s.watching = true ∨ sawExit s.watcher = true

theorem live_init : Live {} := ⟨Bool.noConfusion, Bool.noConfusion⟩

theorem spawned_of_queued : {i : IPc} → queuedPc i = true → spawnedPc i = true
  | .i3, _ | .iCancel _, _ | .iDone, _ => rfl

theorem inTasks_of_cancelSt (s : ES) (c : CPc) (hown : c.owner = true → s.inTasks = false)
    (h : (cancelSt s c).inTasks = true) : s.inTasks = true ∧ (cancelSt s c).procKey = s.procKey := by
  cases c with
  | c2 =>
    unfold cancelSt at h ⊢
    by_cases hin : s.inTasks = true
    · rw [if_pos hin] at h
      cases h
    · rw [if_neg hin] at h
      exact absurd h hin
  | c4 => exact absurd (hown rfl ▸ h) Bool.noConfusion
  | _ => exact ⟨h, rfl⟩

theorem Live.cancelSt {s : ES} (hl : Live s) {c : CPc} (hown : c.owner = true → s.inTasks = false) :
    Live (cancelSt s c) := by
  constructor
  · intro a b d
    obtain ⟨d1, d2⟩ := inTasks_of_cancelSt s c hown d
    simp only [cancelSt_frame] at a b ⊢
    rw [d2]
    exact hl.key a b d1
  · intro a b d
    simp only [cancelSt_frame] at a b ⊢
    exact hl.watch a b (inTasks_of_cancelSt s c hown d).1

theorem live_step (s : ES) (c : Choice) (hi : Inv s) (hl : Live s) : Live (step s c) := by
  -- an invocation that owns the task finds it outside `_tasks`
  have inl : ∀ c ip, s.intake = .iCancel c → Live { cancelSt s c with intake := ip } := by
    intro c ip hc
    have hown : c.owner = true → s.inTasks = false := fun ho =>
      hi.not_inTasks (by simp only [owners, ownersI, hc, ho, b2n]; omega)
    have ⟨hk, hw⟩ := hl.cancelSt hown
    rw [(cancelSt_frame s c).1.trans hc] at hk hw
    exact ⟨fun _ => hk rfl, fun _ => hw rfl⟩
  have can : ∀ i c, s.cancels[i]? = some c → Live { cancelSt s c with cancels := s.cancels.set i (cancelPc s c) } := by
    intro i c hc
    have hown : c.owner = true → s.inTasks = false := fun ho => hi.not_inTasks <| by
      have := countP_pos_iff.mpr ⟨c, mem_of_getElem? hc, ho⟩
      simp only [owners, ownersC]; omega
    have hl' := hl.cancelSt hown
    exact ⟨hl'.key, hl'.watch⟩
  obtain ⟨inTasks, procKey, proc, mark, watching, armed, intake, watcher, cancels, started, unsched, handed, failed,
    canceledPub, outcome⟩ := s
  apply step_cases _ c
  case inline => exact fun c hc => inl c _ hc
  case cancel => exact can
  case stay => exact hl
  case i0 | raises =>
    rintro rfl
    exact ⟨Bool.noConfusion, Bool.noConfusion⟩
  case i1 =>
    rintro rfl
    exact ⟨fun _ _ _ => .inl rfl, Bool.noConfusion⟩
  case i2 =>
    rintro rfl
    exact ⟨hl.key, fun _ _ _ => .inl rfl⟩
  case i3m | i3 =>
    rintro rfl _
    exact ⟨hl.key, hl.watch⟩
  case iFault =>
    rintro rfl
    exact ⟨fun _ b => Nat.noConfusion b, fun _ b => Nat.noConfusion b⟩
  -- up to `w2b` the second disjunct was false before (the watcher was elsewhere), so the first held
  case wIdle =>
    rintro rfl rfl
    exact ⟨fun a b d => (hl.key a b d).imp_right Bool.noConfusion, fun _ _ _ => .inl rfl⟩
  case w0 =>
    rintro rfl rfl
    exact ⟨fun _ _ _ => .inl rfl, fun a b d => (hl.watch a b d).imp_right Bool.noConfusion⟩
  case w0drop =>
    -- the watcher drops a task without handle: such a task is not in `_tasks`
    rintro rfl rfl
    exact ⟨fun a b d => (hl.key a b d).elim Bool.noConfusion Bool.noConfusion,
      fun a b d => (hl.key (spawned_of_queued a) b d).elim Bool.noConfusion Bool.noConfusion⟩
  case w1 =>
    rintro rfl c _
    exact ⟨fun a b d => (hl.key a b d).imp_right Bool.noConfusion, fun _ _ _ => .inr rfl⟩
  case w1back =>
    rintro rfl
    exact ⟨fun a b d => (hl.key a b d).imp_right Bool.noConfusion, fun a b d => (hl.watch a b d).imp_right Bool.noConfusion⟩
  case w2b =>
    rintro c rfl
    exact ⟨fun _ _ _ => .inr rfl, fun _ _ _ => .inr rfl⟩
  case w3 =>
    rintro c rfl _
    exact ⟨fun _ _ d => Bool.noConfusion d, fun _ _ d => Bool.noConfusion d⟩
  case w3back =>
    rintro c rfl rfl
    exact ⟨fun _ _ d => Bool.noConfusion d, fun _ _ d => Bool.noConfusion d⟩
  case w4 =>
    rintro c rfl
    obtain rfl : inTasks = false := hi.not_inTasks (by simp only [owners, ownersW]; omega)
    exact ⟨fun _ _ d => Bool.noConfusion d, fun _ _ d => Bool.noConfusion d⟩
  case exit | req | reqMark | timeout =>
    intros
    exact ⟨hl.key, hl.watch⟩

theorem live_run (cs : List Choice) (s : ES) (hi : Inv s) (hl : Live s) : Live (run s cs) :=
  (run_induction (motive := fun s => Inv s ∧ Live s) cs ⟨hi, hl⟩
    fun s hs c _ => ⟨inv_step s c hs.1, live_step s c hs.1 hs.2⟩).2

end RPVerif.Exec
