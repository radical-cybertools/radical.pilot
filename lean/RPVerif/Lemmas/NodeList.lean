import RPVerif.Model.NodeList
/-! The application-level slot finder.  Everything is said of one occupancy list: position by position, `addOcc` adds the
    `charge` of the booking (`addOcc_get`); the bound (`OccLe`) and the release inverse are read off that. -/
namespace RPVerif.NodeList
open List

/-- what a list of (index, occupation) pairs charges to position `j` -/
def charge (t : List (Nat × Nat)) (j : Nat) : Int :=
  t.foldl (fun a e => if e.1 = j then a + (e.2 : Int) else a) 0

theorem charge_nil (j : Nat) : charge [] j = 0 := rfl

theorem foldl_charge_init (t : List (Nat × Nat)) (j : Nat) (a : Int) :
    t.foldl (fun a e => if e.1 = j then a + (e.2 : Int) else a) a = a + charge t j := by
  induction t generalizing a with
  | nil => exact (Int.add_zero a).symm
  | cons e es ih =>
    unfold charge
    rw [foldl_cons, foldl_cons, ih, ih (if e.1 = j then 0 + (e.2 : Int) else 0)]
    split
    · rw [Int.zero_add, Int.add_assoc]
    · rw [Int.zero_add]

theorem charge_cons (e : Nat × Nat) (es : List (Nat × Nat)) (j : Nat) :
    charge (e :: es) j = (if e.1 = j then (e.2 : Int) else 0) + charge es j := by
  show es.foldl _ (if e.1 = j then 0 + (e.2 : Int) else 0) = _
  rw [foldl_charge_init, Int.zero_add]

theorem bump_zero (o : Option Int) : bump 0 o = o := by
  cases o with
  | none => rfl
  | some v => exact congrArg some (Int.add_zero v)

theorem bump_bump (a b : Int) (o : Option Int) : bump b (bump a o) = bump (a + b) o := by
  cases o with
  | none => rfl
  | some v => exact congrArg some (Int.add_assoc v a b)

theorem addOcc_nil (l : List (Option Int)) (sign : Int) : addOcc l [] sign = l := rfl

theorem addOcc_cons (l : List (Option Int)) (e : Nat × Nat) (es : List (Nat × Nat)) (sign : Int) :
    addOcc l (e :: es) sign = addOcc (l.modify e.1 (bump (sign * e.2))) es sign := rfl

theorem addOcc_get (t : List (Nat × Nat)) (sign : Int) (l : List (Option Int)) (j : Nat) :
    (addOcc l t sign)[j]? = (l[j]?).map (bump (sign * charge t j)) := by
  induction t generalizing l with
  | nil =>
    rw [addOcc_nil, charge_nil, Int.mul_zero]
    cases l[j]? with
    | none => rfl
    | some o => exact congrArg some (bump_zero o).symm
  | cons e es ih =>
    rw [addOcc_cons, ih, getElem?_modify, charge_cons]
    cases l[j]? with
    | none => rfl
    | some o =>
      refine congrArg some ?_
      show bump _ (if e.1 = j then bump _ o else o) = _
      split
      · rw [bump_bump, Int.mul_add]
      · rw [Int.zero_add]

theorem addOcc_length (t : List (Nat × Nat)) (sign : Int) (l : List (Option Int)) : (addOcc l t sign).length = l.length := by
  induction t generalizing l with
  | nil => rfl
  | cons e es ih => rw [addOcc_cons, ih, length_modify]

theorem addOcc_cancel (t : List (Nat × Nat)) (l : List (Option Int)) : addOcc (addOcc l t 1) t (-1) = l := by
  apply ext_getElem?
  intro j
  rw [addOcc_get, addOcc_get, Option.map_map]
  cases l[j]? with
  | none => rfl
  | some o =>
    refine congrArg some ?_
    show bump _ (bump _ o) = o
    rw [bump_bump, Int.one_mul, Int.neg_mul, Int.one_mul, Int.add_right_neg, bump_zero]

theorem charge_nonneg (t : List (Nat × Nat)) (j : Nat) : 0 ≤ charge t j := by
  induction t with
  | nil => exact Int.le_refl 0
  | cons e es ih =>
    rw [charge_cons]
    refine Int.add_nonneg ?_ ih
    split
    · exact Int.natCast_nonneg _
    · exact Int.le_refl 0

theorem charge_notin (t : List (Nat × Nat)) (j : Nat) (h : j ∉ t.map (·.1)) : charge t j = 0 := by
  induction t with
  | nil => rfl
  | cons e es ih =>
    rw [map_cons, mem_cons, not_or] at h
    rw [charge_cons, if_neg (Ne.symm h.1), ih h.2]
    rfl

theorem charge_of_mem (t : List (Nat × Nat)) (hn : (t.map (·.1)).Nodup) (e : Nat × Nat) (he : e ∈ t) : charge t e.1 = e.2 := by
  induction t with
  | nil => cases he
  | cons x xs ih =>
    rw [map_cons, nodup_cons] at hn
    rw [charge_cons]
    rcases mem_cons.mp he with rfl | h
    · rw [if_pos rfl, charge_notin xs e.1 hn.1, Int.add_zero]
    · have hne : x.1 ≠ e.1 := fun heq => hn.1 (heq ▸ mem_map_of_mem h)
      rw [if_neg hne, ih hn.2 h, Int.zero_add]

/-- no entry of an occupancy list is booked beyond one whole -/
def OccLe (l : List (Option Int)) : Prop := ∀ (i : Nat) (v : Int), l[i]? = some (some v) → v ≤ 16

/-- `OccLe n.cores ∧ OccLe n.gpus`, written out -/
def OccBound (n : ANode) : Prop :=
  (∀ (i : Nat) (v : Int), n.cores[i]? = some (some v) → v ≤ 16) ∧ (∀ (i : Nat) (v : Int), n.gpus[i]? = some (some v) → v ≤ 16)

theorem addOcc_bound {l : List (Option Int)} {t : List (Nat × Nat)} {sign : Int}
    (h : ∀ (i : Nat) (v : Int), l[i]? = some (some v) → v + sign * charge t i ≤ 16) : OccLe (addOcc l t sign) := by
  intro i v hv
  rw [addOcc_get] at hv
  cases hl : l[i]? with
  | none => rw [hl] at hv; cases hv
  | some o =>
    rw [hl] at hv
    cases o with
    | none => cases hv
    | some w =>
      cases hv
      exact h i w hl

theorem addOcc_neg_bound {l : List (Option Int)} (t : List (Nat × Nat)) (hb : OccLe l) : OccLe (addOcc l t (-1)) := by
  apply addOcc_bound
  intro i v hl
  rw [Int.neg_mul, Int.one_mul]
  exact Int.add_le_add (hb i v hl) (Int.neg_nonpos_of_nonneg (charge_nonneg t i))

theorem roomFor_iff (l : List (Option Int)) (t : List (Nat × Nat)) :
    roomFor l t = true ↔ ∀ e ∈ t, ∃ v, l[e.1]? = some (some v) ∧ (e.2 : Int) ≤ 16 - v := by
  unfold roomFor
  rw [all_eq_true]
  refine forall_congr' fun e => imp_congr_right fun _ => ?_
  rcases l[e.1]? with _ | _ | v <;> simp

/-- no position is named twice, so each is charged at most what the check saw -/
theorem roomFor_bound (l : List (Option Int)) (t : List (Nat × Nat)) (hn : (t.map (·.1)).Nodup) (hr : roomFor l t = true)
    (hb : OccLe l) : OccLe (addOcc l t 1) := by
  apply addOcc_bound
  intro i v hl
  rw [Int.one_mul]
  by_cases hi : i ∈ t.map (·.1)
  · obtain ⟨e, he, rfl⟩ := mem_map.mp hi
    obtain ⟨w, hw, hroom⟩ := (roomFor_iff l t).mp hr e he
    rw [hl] at hw
    cases hw
    rw [charge_of_mem t hn e he, Int.add_comm]
    exact Int.add_le_of_le_sub_right hroom
  · rw [charge_notin t i hi, Int.add_zero]
    exact hb i v hl

/-! ### `Node.find_slot` -/

/-- the test of `scan`: the entry is not DOWN and has room for `occ` more -/
def hasRoom (occ : Nat) : Option Int → Bool
  | some v => decide ((occ : Int) ≤ 16 - v)
  | none   => false

theorem scan_zero (occ : Nat) (l : List (Option Int)) (i : Nat) : scan occ l i 0 = [] := by
  cases l <;> rfl

theorem scan_eq (occ : Nat) (l : List (Option Int)) (i need : Nat) :
    scan occ l i need = (((l.zipIdx i).filter (fun p => hasRoom occ p.1)).take need).map (fun p => (p.2, occ)) := by
  fun_induction scan occ l i need with
  | case1 => rw [zipIdx_nil, filter_nil, take_nil, map_nil]
  | case2 => rfl
  | case3 os i need ih => exact ih
  | case4 os i need v h ih =>
    rw [zipIdx_cons, filter_cons, hasRoom, if_pos (decide_eq_true h), take_succ_cons, map_cons, ih]
  | case5 os i need v h ih =>
    rw [zipIdx_cons, filter_cons, hasRoom, if_neg (fun hr => h (of_decide_eq_true hr))]
    exact ih

theorem scan_length_le (occ : Nat) (l : List (Option Int)) (i need : Nat) : (scan occ l i need).length ≤ need := by
  rw [scan_eq, length_map, length_take]
  exact Nat.min_le_left _ _

theorem scan_snd {occ : Nat} {l : List (Option Int)} {i need : Nat} {e : Nat × Nat} (he : e ∈ scan occ l i need) : e.2 = occ := by
  rw [scan_eq] at he
  obtain ⟨p, _, rfl⟩ := mem_map.mp he
  rfl

theorem scan_pairwise (occ : Nat) (l : List (Option Int)) (i need : Nat) :
    ((scan occ l i need).map (·.1)).Pairwise (· < ·) := by
  rw [scan_eq, map_map]
  refine Pairwise.sublist (((take_sublist _ _).trans filter_sublist).map Prod.snd) ?_
  rw [zipIdx_map_snd]
  exact pairwise_lt_range'

theorem scan_roomFor (occ : Nat) (l : List (Option Int)) (need : Nat) : roomFor l (scan occ l 0 need) = true := by
  rw [roomFor_iff]
  intro e he
  rw [scan_eq] at he
  obtain ⟨⟨o, j⟩, hp, rfl⟩ := mem_map.mp he
  obtain ⟨hm, hr⟩ := mem_filter.mp (mem_of_mem_take hp)
  cases o with
  | none => cases hr
  | some v => exact ⟨v, mem_zipIdx_iff_getElem?.mp hm, of_decide_eq_true hr⟩

/-- the scan fills the request unless the guard of `find_slot` fires -/
theorem scan_length_eq {occ : Nat} {l : List (Option Int)} {need : Nat}
    (h : ¬(need ≠ 0 ∧ (scan occ l 0 need).length < need)) : (scan occ l 0 need).length = need :=
  Nat.le_antisymm (scan_length_le ..) (Nat.le_of_not_lt fun hlt => h ⟨Nat.ne_zero_of_lt hlt, hlt⟩)

theorem scan_ite (occ : Nat) (l : List (Option Int)) (need : Nat) :
    (if need ≠ 0 then scan occ l 0 need else []) = scan occ l 0 need := by
  split
  · rfl
  · rename_i h
    rw [Decidable.not_not.mp h, scan_zero]

theorem pickCores_eq (n : ANode) (rr : RR) : pickCores n rr = scan rr.coreOcc n.cores 0 rr.nCores := scan_ite ..

theorem pickGpus_eq (n : ANode) (rr : RR) : pickGpus n rr = scan rr.gpuOcc n.gpus 0 rr.nGpus := scan_ite ..

theorem mkSlot_eq (n : ANode) (rr : RR) :
    mkSlot n rr = ⟨n.index, scan rr.coreOcc n.cores 0 rr.nCores, scan rr.gpuOcc n.gpus 0 rr.nGpus, rr.lfs, rr.mem⟩ := by
  rw [mkSlot, pickCores_eq, pickGpus_eq]

theorem slotWF_iff (s : ASlot) : slotWF s = true ↔ (s.cores.map (·.1)).Nodup ∧ (s.gpus.map (·.1)).Nodup := by
  simp only [slotWF, Bool.and_eq_true, decide_eq_true_eq]

theorem mkSlot_wf (n : ANode) (rr : RR) : slotWF (mkSlot n rr) = true := by
  rw [mkSlot_eq, slotWF_iff]
  exact ⟨(scan_pairwise ..).imp Nat.ne_of_lt, (scan_pairwise ..).imp Nat.ne_of_lt⟩

theorem findSlot_spec {n n' : ANode} {rr : RR} {s : ASlot} (h : findSlot n rr = some (s, n')) :
    s = mkSlot n rr ∧ n' = allocate n s ∧ s.cores.length = rr.nCores ∧ s.gpus.length = rr.nGpus
    ∧ (rr.lfs = 0 ∨ (rr.lfs : Int) ≤ n.lfs) ∧ (rr.mem = 0 ∨ (rr.mem : Int) ≤ n.mem) := by
  -- the four guards of `find_slot` (cores, GPUs, lfs, mem), each negated, and the two components of the result
  simp only [findSlot, pickCores_eq, pickGpus_eq, Option.ite_none_left_eq_some, Option.some.injEq, Prod.mk.injEq] at h
  obtain ⟨hc, hg, hl, hm, rfl, rfl⟩ := h
  have room : ∀ {a : Nat} {x : Int}, ¬(a ≠ 0 ∧ x < a) → a = 0 ∨ (a : Int) ≤ x := fun hguard =>
    Decidable.or_iff_not_imp_left.mpr fun h0 => Int.not_lt.mp fun hlt => hguard ⟨h0, hlt⟩
  refine ⟨rfl, rfl, ?_, ?_, room hl, room hm⟩
  · rw [mkSlot_eq]
    exact scan_length_eq hc
  · rw [mkSlot_eq]
    exact scan_length_eq hg

theorem deallocate_bound (n : ANode) (s : ASlot) (hb : OccBound n) : OccBound (deallocate n s) :=
  ⟨addOcc_neg_bound s.cores hb.1, addOcc_neg_bound s.gpus hb.2⟩

theorem allocChecked_bound {n n' : ANode} {s : ASlot} (hw : slotWF s = true) (hb : OccBound n)
    (h : allocChecked n s = some n') : OccBound n' := by
  rw [allocChecked, Option.ite_none_right_eq_some] at h
  obtain ⟨⟨-, hcores, hgpus, -, -⟩, h⟩ := h
  cases h
  rw [slotWF_iff] at hw
  exact ⟨roomFor_bound n.cores s.cores hw.1 hcores hb.1, roomFor_bound n.gpus s.gpus hw.2 hgpus hb.2⟩

/-- the slot `find_slot` books without checking (`_check=False`) passes the checks of `allocate_slot` -/
theorem findSlot_allocChecked {n n' : ANode} {rr : RR} {s : ASlot} (h : findSlot n rr = some (s, n')) :
    allocChecked n s = some n' := by
  obtain ⟨rfl, rfl, _, _, hl, hm⟩ := findSlot_spec h
  unfold allocChecked
  refine if_pos ?_
  rw [mkSlot_eq]
  exact ⟨rfl, scan_roomFor .., scan_roomFor .., hl, hm⟩

theorem findSlot_bound {n n' : ANode} {rr : RR} {s : ASlot} (hb : OccBound n) (h : findSlot n rr = some (s, n')) : OccBound n' :=
  allocChecked_bound ((findSlot_spec h).1 ▸ mkSlot_wf n rr) hb (findSlot_allocChecked h)

/-! ### the node list -/

def AllBound (nodes : List ANode) : Prop := ∀ n ∈ nodes, OccBound n

theorem allBound_set {nodes : List ANode} {n : ANode} (h : AllBound nodes) (hn : OccBound n) (pos : Nat) :
    AllBound (setNode nodes pos n) := by
  intro m hm
  rcases mem_or_eq_of_mem_set hm with h1 | rfl
  · exact h m h1
  · exact hn

theorem fillNode_bound {rr : RR} {fuel need : Nat} {n n' : ANode} {got : List ASlot} (h : OccBound n)
    (hf : fillNode rr fuel n need = (got, n')) : OccBound n' := by
  fun_induction fillNode rr fuel n need generalizing got n' with
  | case1 | case2 | case3 =>
    cases hf
    exact h
  | case4 fuel n need s n₁ hs ih =>
    cases hf
    exact ih (findSlot_bound h hs) rfl

theorem fillLoop_bound (rr : RR) (start : Int) (need count i : Nat) (nodes : List ANode) (acc : List ASlot)
    (h : AllBound nodes) : AllBound (fillLoop rr start need count i nodes acc).2.1 := by
  fun_induction fillLoop rr start need count i nodes acc with
  | case1 => exact h
  | case2 count i nodes acc hn =>
    simp only [hn]
    exact h
  | case3 count i nodes acc node hn got node' hf hfull =>
    simp only [hn, hf, hfull, if_true]
    exact allBound_set h (fillNode_bound (h node (mem_of_getElem? hn)) hf) _
  | case4 count i nodes acc node hn got node' hf hfull ih =>
    simp only [hn, hf, hfull, if_false]
    exact ih (allBound_set h (fillNode_bound (h node (mem_of_getElem? hn)) hf) _)

theorem releaseAll_bound (slots : List ASlot) (nodes : List ANode) (h : AllBound nodes) : AllBound (releaseAll nodes slots) := by
  induction slots generalizing nodes with
  | nil => exact h
  | cons s ss ih =>
    apply ih
    cases hn : nodes[s.node]? with
    | none => exact h
    | some n => exact allBound_set h (deallocate_bound n s (h n (mem_of_getElem? hn))) s.node

theorem findSlots_bound (l : NL) (rr : RR) (n : Nat) (h : AllBound l.nodes) : AllBound (findSlots l rr n).2.nodes := by
  unfold findSlots
  cases assertRR l rr n with
  | some e => exact h
  | none =>
    dsimp only
    by_cases hc : cacheHit l rr n = true
    · rw [if_pos hc]
      exact h
    · rw [if_neg hc]
      have hf := fillLoop_bound rr l.index n l.nodes.length 0 l.nodes [] h
      generalize fillLoop rr l.index n l.nodes.length 0 l.nodes [] = res at hf ⊢
      obtain ⟨slots, nodes, stop⟩ := res
      cases stop with
      | some stop => exact hf
      | none => exact releaseAll_bound _ _ hf

theorem releaseSlots_bound (l : NL) (slots : List ASlot) (h : AllBound l.nodes) : AllBound (releaseSlots l slots).nodes :=
  releaseAll_bound slots l.nodes h

theorem allocApp_bound {l l' : NL} {pos : Nat} {s : ASlot} (hw : slotWF s = true) (hb : AllBound l.nodes)
    (h : allocApp l pos s = some l') : AllBound l'.nodes := by
  unfold allocApp at h
  have hnode : ∀ n, l.nodes[pos]? = some n → OccBound n := fun n hn => hb n (mem_of_getElem? hn)
  generalize l.nodes[pos]? = node at h hnode
  cases node with
  | none => cases h
  | some n =>
    dsimp only at h
    generalize hc : allocChecked n s = res at h
    cases res with
    | none => cases h
    | some n' =>
      cases h
      exact allBound_set hb (allocChecked_bound hw (hnode n rfl) hc) pos

/-! ### several application threads on one node -/

theorem crun_cons (atomic relAtomic : Bool) (s : CState) (st : CStep) (rest : List CStep) :
    crun atomic relAtomic s (st :: rest) = crun atomic relAtomic (cstep atomic relAtomic s st) rest := rfl

/-- with both sections locked nothing is ever pending (`book` and `write` steps find nothing to do): a schedule is its
    calls and releases one after the other, in the order the lock let them in -/
theorem crun_atomic (steps : List CStep) (n : ANode) (got : List (Nat × Option ASlot)) :
    crun true true ⟨n, [], [], got⟩ steps = ⟨(seqCalls n steps).1, [], [], got ++ (seqCalls n steps).2⟩ := by
  fun_induction seqCalls n steps generalizing got with
  | case1 n => exact congrArg _ (append_nil got).symm
  | case2 n k rest ih | case3 n k rest ih | case4 n k sl rest ih => exact ih got
  | case5 n k rr rest hf ih =>
    rw [crun_cons, cstep, hf]
    exact (ih (got ++ [(k, none)])).trans (congrArg _ (append_assoc ..))
  | case6 n k rr rest s n' hf ih =>
    rw [crun_cons, cstep, hf]
    exact (ih (got ++ [(k, some s)])).trans (congrArg _ (append_assoc ..))

theorem seqCalls_bound (steps : List CStep) (n : ANode) (h : OccBound n) : OccBound (seqCalls n steps).1 := by
  fun_induction seqCalls n steps with
  | case1 => exact h
  | case2 n k rest ih | case3 n k rest ih | case5 n k rr rest hf ih => exact ih h
  | case4 n k sl rest ih => exact ih (deallocate_bound n sl h)
  | case6 n k rr rest s n' hf ih => exact ih (findSlot_bound h hf)

end RPVerif.NodeList
