import RPVerif.Lemmas.SchedHist
/-!
The global invariant of the agent scheduler (`HInv`; C01, C03, C04 over whole histories rest on it):
the node map is the initial map with exactly the cores / GPUs of the placements still held marked
BUSY and their storage / memory subtracted.  `held` is the history variable of the model (`SchedSt.held`).
-/
namespace RPVerif.Sched
open List

/-- what `_change_slot_states` does to one node; `sls`: the slots that lie on it -/
def applyAll (n : NodeSt) (sls : List Slot) (b : Bool) : NodeSt := sls.foldl (fun n sl => applySlot n sl b) n

theorem applySlot_index (n : NodeSt) (sl : Slot) (b : Bool) : (applySlot n sl b).index = n.index := rfl

theorem applyAll_eq (n : NodeSt) (sls : List Slot) (b : Bool) :
    applyAll n sls b =
      { n with cores := foldSet n.cores (sls.flatMap (·.cores)) (occOf b),
               gpus  := foldSet n.gpus (sls.flatMap (fun sl => sl.gpus.map (·.1))) (occOf b),
               lfs   := if b then n.lfs - ((sls.map (·.lfs)).sum : Nat) else n.lfs + ((sls.map (·.lfs)).sum : Nat),
               mem   := if b then n.mem - ((sls.map (·.mem)).sum : Nat) else n.mem + ((sls.map (·.mem)).sum : Nat) } := by
  induction sls generalizing n with
  | nil =>
    cases b
    · exact NodeSt.ext rfl rfl rfl (Int.add_zero _).symm (Int.add_zero _).symm
    · exact NodeSt.ext rfl rfl rfl (Int.sub_zero _).symm (Int.sub_zero _).symm
  | cons sl sls ih =>
    have hamount : ∀ (a : Int) (x y : Nat),
        (if b then (if b then a - x else a + x) - y else (if b then a - x else a + x) + y)
          = if b then a - ((x + y : Nat) : Int) else a + ((x + y : Nat) : Int) := by
      intro a x y
      rw [Int.natCast_add]
      cases b
      · exact Int.add_assoc _ _ _
      · exact Int.sub_sub _ _ _
    rw [show applyAll n (sl :: sls) b = applyAll (applySlot n sl b) sls b from rfl, ih]
    refine NodeSt.ext rfl ?_ ?_ ?_ ?_
    · show foldSet (applySlot n sl b).cores _ _ = foldSet n.cores _ _
      rw [applySlot_cores, foldSet_append, flatMap_cons]
    · show foldSet (applySlot n sl b).gpus _ _ = foldSet n.gpus _ _
      rw [applySlot_gpus, foldSet_append, flatMap_cons]
    · rw [map_cons, sum_cons]
      exact hamount n.lfs sl.lfs _
    · rw [map_cons, sum_cons]
      exact hamount n.mem sl.mem _

theorem changeSlotStates_spec (slots : List Slot) (b : Bool) (ns ns' : List NodeSt)
    (h : changeSlotStates ns slots b = some ns') :
    ns' = ns.map (fun n => applyAll n (slots.filter (fun sl => sl.node = n.index)) b) := by
  fun_induction changeSlotStates ns slots b generalizing ns' with
  | case1 ns b =>
    cases h
    exact (map_id' ns).symm
  | case2 ns sl sls b _ ih =>
    rw [ih ns' h, map_map]
    apply map_congr_left
    intro n _
    simp only [Function.comp]
    by_cases hi : n.index = sl.node
    · have e : (sl :: sls).filter (fun s => s.node = n.index) = sl :: sls.filter (fun s => s.node = n.index) :=
        filter_cons_of_pos (decide_eq_true hi.symm)
      simp only [if_pos hi, applySlot_index, e]
      rfl
    · have e : (sl :: sls).filter (fun s => s.node = n.index) = sls.filter (fun s => s.node = n.index) :=
        filter_cons_of_neg (fun x => hi (of_decide_eq_true x).symm)
      simp only [if_neg hi, e]
  | case3 => cases h

theorem changeSlotStates_some (slots : List Slot) (b : Bool) :
    ∀ (ns : List NodeSt), (∀ sl ∈ slots, ∃ n ∈ ns, n.index = sl.node) → ∃ ns', changeSlotStates ns slots b = some ns' := by
  intro ns h
  fun_induction changeSlotStates ns slots b with
  | case1 ns b => exact ⟨ns, rfl⟩
  | case2 ns sl sls b _ ih =>
    apply ih
    intro s hs
    obtain ⟨n, hn, hi⟩ := h s (mem_cons_of_mem _ hs)
    refine ⟨if n.index = sl.node then applySlot n sl b else n, mem_map.mpr ⟨n, hn, rfl⟩, ?_⟩
    split <;> exact hi
  | case3 ns sl sls b hany =>
    obtain ⟨n, hn, hi⟩ := h sl mem_cons_self
    exact absurd (any_eq_true.mpr ⟨n, hn, decide_eq_true hi⟩) hany

def Marked (l0 l : List Occ) (X : List Nat) : Prop := l = foldSet l0 X .busy ∧ ∀ x ∈ X, l0[x]? = some Occ.free

theorem marked_get {l0 l : List Occ} {X : List Nat} (h : Marked l0 l X) (x : Nat) :
    l[x]? = if x ∈ X then some Occ.busy else l0[x]? := by
  rw [h.1, foldSet_get]
  by_cases hx : x ∈ X
  · rw [if_pos hx, if_pos hx, h.2 x hx]; rfl
  · rw [if_neg hx, if_neg hx]

/-- entries that read FREE are marked: they were not marked before and were FREE at the start -/
theorem marked_alloc {l0 l : List Occ} {X : List Nat} (h : Marked l0 l X) (A : List Nat)
    (hA : ∀ a ∈ A, l[a]? = some Occ.free) : Marked l0 (foldSet l A .busy) (X ++ A) ∧ ∀ a ∈ A, a ∉ X := by
  have hA' : ∀ a ∈ A, a ∉ X ∧ l0[a]? = some Occ.free := by
    intro a ha
    have hfree := hA a ha
    rw [marked_get h a] at hfree
    by_cases hx : a ∈ X
    · rw [if_pos hx] at hfree
      cases hfree
    · rw [if_neg hx] at hfree
      exact ⟨hx, hfree⟩
  exact ⟨⟨by rw [h.1, foldSet_append], forall_mem_append.mpr ⟨h.2, fun a ha => (hA' a ha).2⟩⟩, fun a ha => (hA' a ha).1⟩

theorem marked_release {l0 l : List Occ} {X E Y : List Nat} (h : Marked l0 l (X ++ E ++ Y))
    (hd : ∀ j ∈ E, j ∉ X ∧ j ∉ Y) : Marked l0 (foldSet l E .free) (X ++ Y) := by
  obtain ⟨hXE, hY⟩ := forall_mem_append.mp h.2
  obtain ⟨hX, hE⟩ := forall_mem_append.mp hXE
  refine ⟨?_, forall_mem_append.mpr ⟨hX, hY⟩⟩
  rw [h.1]
  apply ext_getElem?
  intro j
  rw [foldSet_get, foldSet_get, foldSet_get]
  by_cases hj : j ∈ E
  · have ⟨hx, hy⟩ := hd j hj
    rw [if_pos hj, if_pos (mem_append_left _ (mem_append_right _ hj)), if_neg (fun h => (mem_append.mp h).elim hx hy),
        hE j hj]
    rfl
  · rw [if_neg hj]
    simp only [mem_append, hj, or_false]

def Taken (a0 a : Int) (x : Nat) : Prop := a = a0 - (x : Nat) ∧ 0 ≤ a

theorem taken_le {a0 a : Int} {x : Nat} (h : Taken a0 a x) : (x : Int) ≤ a0 :=
  Int.le_of_sub_nonneg (h.1 ▸ h.2)

theorem taken_alloc {a0 a : Int} {x : Nat} (h : Taken a0 a x) (y : Nat) (hy : (y : Int) ≤ a) : Taken a0 (a - y) (x + y) :=
  ⟨by rw [h.1, Int.natCast_add, Int.sub_sub], Int.sub_nonneg_of_le hy⟩

theorem taken_release {a0 a : Int} {x e y : Nat} (h : Taken a0 a (x + e + y)) : Taken a0 (a + e) (x + y) :=
  ⟨by rw [h.1]; omega, Int.add_nonneg h.2 (Int.natCast_nonneg _)⟩

/-- one node against its initial state `n0` and the slots `H` still held -/
structure NodeInv (n0 n : NodeSt) (H : List Slot) : Prop where
  idx    : n.index = n0.index
  cnodup : (coresOn H n0.index).Nodup
  cfree0 : ∀ c ∈ coresOn H n0.index, n0.cores[c]? = some Occ.free
  cores  : n.cores = foldSet n0.cores (coresOn H n0.index) .busy
  gfree0 : ∀ g ∈ gpusOn H n0.index, n0.gpus[g]? = some Occ.free
  gpus   : n.gpus = foldSet n0.gpus (gpusOn H n0.index) .busy
  lfs    : n.lfs = n0.lfs - (lfsOn H n0.index : Nat)
  mem    : n.mem = n0.mem - (memOn H n0.index : Nat)
  lfs0   : 0 ≤ n.lfs
  mem0   : 0 ≤ n.mem

theorem nodeinv_refl (n : NodeSt) (hl : 0 ≤ n.lfs) (hm : 0 ≤ n.mem) : NodeInv n n [] where
  idx := rfl
  cnodup := nodup_nil
  cfree0 := forall_mem_nil _
  cores := rfl
  gfree0 := forall_mem_nil _
  gpus := rfl
  lfs := (Int.sub_zero _).symm
  mem := (Int.sub_zero _).symm
  lfs0 := hl
  mem0 := hm

theorem nodeinv_nil {n0 n : NodeSt} (h : NodeInv n0 n []) : n = n0 :=
  NodeSt.ext h.idx h.cores h.gpus (h.lfs.trans (Int.sub_zero _)) (h.mem.trans (Int.sub_zero _))

theorem nodeinv_iff (n0 n : NodeSt) (H : List Slot) :
    NodeInv n0 n H ↔ n.index = n0.index ∧ (coresOn H n0.index).Nodup
      ∧ Marked n0.cores n.cores (coresOn H n0.index) ∧ Marked n0.gpus n.gpus (gpusOn H n0.index)
      ∧ Taken n0.lfs n.lfs (lfsOn H n0.index) ∧ Taken n0.mem n.mem (memOn H n0.index) :=
  ⟨fun h => ⟨h.idx, h.cnodup, ⟨h.cores, h.cfree0⟩, ⟨h.gpus, h.gfree0⟩, ⟨h.lfs, h.lfs0⟩, ⟨h.mem, h.mem0⟩⟩,
   fun ⟨hi, hn, hc, hg, hl, hm⟩ =>
     { idx := hi, cnodup := hn, cfree0 := hc.2, cores := hc.1, gfree0 := hg.2, gpus := hg.1,
       lfs := hl.1, mem := hm.1, lfs0 := hl.2, mem0 := hm.2 }⟩

theorem nodeinv_core_busy (n0 n : NodeSt) (H : List Slot) (h : NodeInv n0 n H) (c : Nat) (hc : c ∈ coresOn H n0.index) :
    n.cores[c]? = some Occ.busy :=
  (marked_get ⟨h.cores, h.cfree0⟩ c).trans (if_pos hc)

theorem nodeinv_gpu_busy (n0 n : NodeSt) (H : List Slot) (h : NodeInv n0 n H) (g : Nat) (hg : g ∈ gpusOn H n0.index) :
    n.gpus[g]? = some Occ.busy :=
  (marked_get ⟨h.gpus, h.gfree0⟩ g).trans (if_pos hg)

theorem nodeinv_core_other (n0 n : NodeSt) (H : List Slot) (h : NodeInv n0 n H) (c : Nat) (hc : c ∉ coresOn H n0.index) :
    n.cores[c]? = n0.cores[c]? :=
  (marked_get ⟨h.cores, h.cfree0⟩ c).trans (if_neg hc)

theorem nodeinv_gpu_other (n0 n : NodeSt) (H : List Slot) (h : NodeInv n0 n H) (g : Nat) (hg : g ∉ gpusOn H n0.index) :
    n.gpus[g]? = n0.gpus[g]? :=
  (marked_get ⟨h.gpus, h.gfree0⟩ g).trans (if_neg hg)

theorem nodeinv_alloc (n0 n : NodeSt) (H A : List Slot) (ni : NodeInv n0 n H)
    (hfit : FitsNode n (A.filter (fun sl => sl.node = n.index))) :
    NodeInv n0 (applyAll n (A.filter (fun sl => sl.node = n.index)) true) (H ++ A) := by
  rw [applyAll_eq]
  rw [ni.idx] at hfit ⊢
  obtain ⟨_, hnd, mc, mg, tl, tm⟩ := (nodeinv_iff n0 n H).mp ni
  obtain ⟨hndA, hcf, hgf, hl, hm⟩ := hfit
  obtain ⟨mc', hdis⟩ := marked_alloc mc (coresOn A n0.index) hcf
  rw [nodeinv_iff, coresOn_append, gpusOn_append, lfsOn_append, memOn_append]
  exact ⟨rfl, nodup_append.mpr ⟨hnd, hndA, fun a ha b hb e => hdis b hb (e ▸ ha)⟩, mc',
         (marked_alloc mg (gpusOn A n0.index) hgf).1, taken_alloc tl _ hl, taken_alloc tm _ hm⟩

/-- That no other held slot names a GPU of `E` is a hypothesis (`GDisj`), unlike for the cores: the slots of one
    placement may share a GPU, so the GPUs held on a node are not duplicate-free. -/
theorem nodeinv_release (n0 n : NodeSt) (X E Y : List Slot) (ni : NodeInv n0 n (X ++ E ++ Y))
    (hgd : ∀ g ∈ gpusOn E n0.index, g ∉ gpusOn X n0.index ∧ g ∉ gpusOn Y n0.index) :
    NodeInv n0 (applyAll n (E.filter (fun sl => sl.node = n.index)) false) (X ++ Y) := by
  rw [applyAll_eq, ni.idx]
  obtain ⟨_, hnd, mc, mg, tl, tm⟩ := (nodeinv_iff n0 n _).mp ni
  rw [coresOn_append, coresOn_append] at hnd mc
  rw [gpusOn_append, gpusOn_append] at mg
  rw [lfsOn_append, lfsOn_append] at tl
  rw [memOn_append, memOn_append] at tm
  -- for the cores this follows: everything held on the node is duplicate-free
  obtain ⟨hndXE, hndY, hXEY⟩ := nodup_append.mp hnd
  obtain ⟨hndX, _, hXE⟩ := nodup_append.mp hndXE
  have hcd : ∀ j ∈ coresOn E n0.index, j ∉ coresOn X n0.index ∧ j ∉ coresOn Y n0.index :=
    fun j hj => ⟨fun hx => hXE j hx j hj rfl, fun hy => hXEY j (mem_append_right _ hj) j hy rfl⟩
  rw [nodeinv_iff, coresOn_append, gpusOn_append, lfsOn_append, memOn_append]
  exact ⟨rfl, nodup_append.mpr ⟨hndX, hndY, fun a ha b hb => hXEY a (mem_append_left _ ha) b hb⟩,
         marked_release mc hcd, marked_release mg hgd, taken_release tl, taken_release tm⟩

def heldSlots (held : List (Nat × List Slot)) : List Slot := held.flatMap (·.2)

/-- GPUs are not shared between placements -/
def GDisj (held : List (Nat × List Slot)) : Prop :=
  held.Pairwise (fun a b => ∀ idx, ∀ g ∈ gpusOn a.2 idx, g ∉ gpusOn b.2 idx)

structure HInv (nodes0 nodes : List NodeSt) (held : List (Nat × List Slot)) : Prop where
  wf      : NodesWF nodes0
  len     : nodes.length = nodes0.length
  node    : ∀ (i : Nat) (n0 n : NodeSt), nodes0[i]? = some n0 → nodes[i]? = some n → NodeInv n0 n (heldSlots held)
  onNode  : ∀ sl ∈ heldSlots held, ∃ n0 ∈ nodes0, n0.index = sl.node   -- a node of the initial map; `hinv_onNode` for the current one
  gdisj   : GDisj held

theorem heldSlots_append (a b : List (Nat × List Slot)) : heldSlots (a ++ b) = heldSlots a ++ heldSlots b :=
  flatMap_append

theorem heldSlots_cons (e : Nat × List Slot) (es : List (Nat × List Slot)) : heldSlots (e :: es) = e.2 ++ heldSlots es :=
  flatMap_cons

theorem coresOn_heldSlots (held : List (Nat × List Slot)) (idx : Nat) :
    coresOn (heldSlots held) idx = held.flatMap (fun e => coresOn e.2 idx) := by
  unfold coresOn heldSlots
  rw [filter_flatMap, flatMap_assoc]

theorem gpusOn_heldSlots (held : List (Nat × List Slot)) (idx : Nat) :
    gpusOn (heldSlots held) idx = held.flatMap (fun e => gpusOn e.2 idx) := by
  unfold gpusOn heldSlots
  rw [filter_flatMap, flatMap_assoc]

theorem hinv_mem (nodes0 nodes : List NodeSt) (held : List (Nat × List Slot)) (h : HInv nodes0 nodes held) (n : NodeSt) (hn : n ∈ nodes) :
    ∃ n0 ∈ nodes0, NodeInv n0 n (heldSlots held) := by
  obtain ⟨i, hi⟩ := getElem?_of_mem hn
  have hi0 : i < nodes0.length := h.len ▸ (List.getElem?_eq_some_iff.mp hi).1
  exact ⟨nodes0[i], getElem_mem hi0, h.node i _ n (getElem?_eq_getElem hi0) hi⟩

theorem hinv_mem0 (nodes0 nodes : List NodeSt) (held : List (Nat × List Slot)) (h : HInv nodes0 nodes held) (n0 : NodeSt)
    (hn : n0 ∈ nodes0) : ∃ n ∈ nodes, NodeInv n0 n (heldSlots held) := by
  obtain ⟨i, hi⟩ := getElem?_of_mem hn
  have hi' : i < nodes.length := h.len ▸ (List.getElem?_eq_some_iff.mp hi).1
  exact ⟨nodes[i], getElem_mem hi', h.node i n0 _ hi (getElem?_eq_getElem hi')⟩

theorem hinv_onNode (nodes0 nodes : List NodeSt) (held : List (Nat × List Slot)) (h : HInv nodes0 nodes held) :
    ∀ sl ∈ heldSlots held, ∃ n ∈ nodes, n.index = sl.node := by
  intro sl hsl
  obtain ⟨n0, hn0, hi⟩ := h.onNode sl hsl
  obtain ⟨n, hn, ni⟩ := hinv_mem0 nodes0 nodes held h n0 hn0
  exact ⟨n, hn, ni.idx.trans hi⟩

/-- cores are not shared between placements either: what is held on one node is duplicate-free -/
theorem hinv_cdisj (nodes0 nodes : List NodeSt) (held : List (Nat × List Slot)) (h : HInv nodes0 nodes held) :
    held.Pairwise (fun a b => ∀ idx, ∀ x ∈ coresOn a.2 idx, x ∉ coresOn b.2 idx) := by
  apply pairwise_iff_forall_sublist.mpr
  intro a b hab idx x hx hxb
  obtain ⟨sl, hsl, _⟩ := mem_flatMap.mp hx
  obtain ⟨hsl, hnode⟩ := mem_filter.mp hsl
  obtain ⟨n0, hn0, hi⟩ := h.onNode sl (mem_flatMap.mpr ⟨a, hab.subset mem_cons_self, hsl⟩)
  obtain ⟨n, _, hn⟩ := hinv_mem0 nodes0 nodes held h n0 hn0
  have hnd := hn.cnodup
  rw [hi, of_decide_eq_true hnode, coresOn_heldSlots] at hnd
  exact pairwise_iff_forall_sublist.mp (pairwise_flatMap.mp hnd).2 hab x hx x hxb rfl

theorem hinv_index (nodes0 nodes : List NodeSt) (held : List (Nat × List Slot)) (h : HInv nodes0 nodes held) :
    nodes.map (·.index) = nodes0.map (·.index) := by
  apply ext_getElem (by rw [length_map, length_map, h.len])
  intro i h1 h2
  rw [getElem_map, getElem_map]
  exact (h.node i _ _ (getElem?_eq_getElem _) (getElem?_eq_getElem _)).idx

theorem hinv_wf (nodes0 nodes : List NodeSt) (held : List (Nat × List Slot)) (h : HInv nodes0 nodes held) : NodesWF nodes := by
  unfold NodesWF; rw [hinv_index nodes0 nodes held h]; exact h.wf

theorem hinv_nonneg (nodes0 nodes : List NodeSt) (held : List (Nat × List Slot)) (h : HInv nodes0 nodes held) : NonNeg nodes := by
  intro n hn
  obtain ⟨n0, _, ni⟩ := hinv_mem nodes0 nodes held h n hn
  exact ⟨ni.lfs0, ni.mem0⟩

theorem hinv_init (nodes0 : List NodeSt) (hw : NodesWF nodes0) (hnn : NonNeg nodes0) : HInv nodes0 nodes0 [] := by
  refine ⟨hw, rfl, ?_, forall_mem_nil _, Pairwise.nil⟩
  intro i n0 n h0 hn
  rw [h0] at hn
  cases hn
  have hm := mem_of_getElem? h0
  exact nodeinv_refl n0 (hnn n0 hm).1 (hnn n0 hm).2

theorem hinv_nil (nodes0 nodes : List NodeSt) (h : HInv nodes0 nodes []) : nodes = nodes0 := by
  apply ext_getElem h.len
  intro i h1 h2
  exact nodeinv_nil (h.node i _ _ (getElem?_eq_getElem h2) (getElem?_eq_getElem h1))

theorem hinv_map {nodes0 nodes : List NodeSt} {held : List (Nat × List Slot)} (h : HInv nodes0 nodes held)
    (f : NodeSt → NodeSt) (held' : List (Nat × List Slot))
    (hnode : ∀ n0, ∀ n ∈ nodes, NodeInv n0 n (heldSlots held) → NodeInv n0 (f n) (heldSlots held'))
    (hon : ∀ sl ∈ heldSlots held', ∃ n0 ∈ nodes0, n0.index = sl.node) (hgd : GDisj held') :
    HInv nodes0 (nodes.map f) held' := by
  refine ⟨h.wf, (length_map f).trans h.len, ?_, hon, hgd⟩
  intro i n0 n' h0 hn'
  rw [getElem?_map] at hn'
  obtain ⟨n, hn, rfl⟩ := Option.map_eq_some_iff.mp hn'
  exact hnode n0 n (mem_of_getElem? hn) (h.node i n0 n h0 hn)

theorem hinv_alloc (nodes0 nodes ns : List NodeSt) (held : List (Nat × List Slot)) (uid : Nat) (alc : List Slot)
    (h : HInv nodes0 nodes held) (hp : Placeable nodes alc) (hc : changeSlotStates nodes alc true = some ns) :
    HInv nodes0 ns (held ++ [(uid, alc)]) := by
  have hH : heldSlots (held ++ [(uid, alc)]) = heldSlots held ++ alc := by
    rw [heldSlots_append, heldSlots_cons, show heldSlots [] = [] from rfl, append_nil]
  rw [changeSlotStates_spec alc true nodes ns hc]
  refine hinv_map h _ _ ?_ ?_ ?_
  · intro n0 n hn ni
    rw [hH]
    exact nodeinv_alloc n0 n _ alc ni (((placeable_iff nodes alc).mp hp).2 n hn)
  · rw [hH]
    refine forall_mem_append.mpr ⟨h.onNode, fun sl hs => ?_⟩
    obtain ⟨n, hn, hi⟩ := hp.onNode sl hs
    obtain ⟨n0, hn0, ni⟩ := hinv_mem nodes0 nodes held h n hn
    exact ⟨n0, hn0, ni.idx ▸ hi⟩
  · refine pairwise_append.mpr ⟨h.gdisj, pairwise_singleton _ _, fun a ha b hb idx g hg hgb => ?_⟩
    rw [mem_singleton.mp hb] at hgb
    -- `g` on node `idx` is named by the held placement `a` and by the new one: BUSY and FREE in the current map
    obtain ⟨sl, hsl, _⟩ := mem_flatMap.mp hgb
    obtain ⟨hsl, hnode⟩ := mem_filter.mp hsl
    obtain ⟨n, hn, hi⟩ := hp.onNode sl hsl
    have hidx : n.index = idx := hi.trans (of_decide_eq_true hnode)
    obtain ⟨n0, _, ni⟩ := hinv_mem nodes0 nodes held h n hn
    have hbusy := nodeinv_gpu_busy n0 n _ ni g (by
      rw [← ni.idx, hidx, gpusOn_heldSlots]; exact mem_flatMap.mpr ⟨a, ha, hg⟩)
    rw [hp.gfree n hn g (hidx ▸ hgb)] at hbusy
    cases hbusy

theorem hinv_release (nodes0 nodes ns : List NodeSt) (held : List (Nat × List Slot)) (e : Nat × List Slot)
    (h : HInv nodes0 nodes held) (he : e ∈ held) (hc : changeSlotStates nodes e.2 false = some ns) :
    HInv nodes0 ns (held.erase e) := by
  -- `held` is `A ++ e :: B`, of which `A ++ B` stays
  obtain ⟨A, B, _, hsplit, herase⟩ := exists_erase_eq he
  rw [herase, changeSlotStates_spec e.2 false nodes ns hc]
  have hH  : heldSlots held = heldSlots A ++ e.2 ++ heldSlots B := by
    rw [hsplit, heldSlots_append, heldSlots_cons, append_assoc]
  have hH' : heldSlots (A ++ B) = heldSlots A ++ heldSlots B := heldSlots_append A B
  have hgd : GDisj (A ++ e :: B) := hsplit ▸ h.gdisj
  obtain ⟨_, hgdB, hgdA⟩ := pairwise_append.mp hgd
  refine hinv_map h _ _ ?_ ?_ (Pairwise.sublist (Sublist.append_left (sublist_cons_self e B) A) hgd)
  · intro n0 n _ ni
    rw [hH']
    refine nodeinv_release n0 n _ e.2 _ (hH ▸ ni) (fun g hg => ⟨fun hx => ?_, fun hx => ?_⟩)
    · rw [gpusOn_heldSlots] at hx
      obtain ⟨a, ha, hga⟩ := mem_flatMap.mp hx
      exact hgdA a ha e mem_cons_self _ g hga hg
    · rw [gpusOn_heldSlots] at hx
      obtain ⟨b, hb, hgb⟩ := mem_flatMap.mp hx
      exact (pairwise_cons.mp hgdB).1 b hb _ g hg hgb
  · intro sl hs
    apply h.onNode
    rw [hH]
    rw [hH'] at hs
    rcases mem_append.mp hs with x | x
    · exact mem_append_left _ (mem_append_left _ x)
    · exact mem_append_right _ x

end RPVerif.Sched
