import RPVerif.Model.Timeout

/-! `Inv` traces every nonzero cancel time the timeout watcher holds back to an event of the history; `pass_after_startup`
    follows the entry of one task through the merge. -/
namespace RPVerif.Timeout

/-- `ct` stems from a timeout `u` asked for: a nonzero startup or execution timeout counted from `handle_timeout`, or a
    nonzero execution timeout counted from a reported startup -/
def Justified (H : List (Nat × Ev)) (u ct : Nat) : Prop :=
  ∃ t0 v, v ≠ 0 ∧ ct = t0 + v ∧
    ((∃ st et, (t0, Ev.reg u st et) ∈ H ∧ v = (if st ≠ 0 then st else et)) ∨ ((t0, Ev.done u v) ∈ H))

structure Inv (H : List (Nat × Ev)) (w : TW) : Prop where
  pend : ∀ p ∈ w.pending, p.ct ≠ 0 → Justified H p.uid p.ct
  tab  : ∀ e ∈ w.table, e.2 ≠ 0 → Justified H e.1 e.2

theorem mem_setKey {t : List (Nat × Nat)} {u c : Nat} {e : Nat × Nat} (h : e ∈ setKey t u c) :
    e ∈ t ∧ e.1 ≠ u ∨ e = (u, c) := by
  unfold setKey at h
  by_cases hany : t.any (fun e => e.1 = u) = true
  · rw [if_pos hany] at h
    obtain ⟨x, hx, rfl⟩ := List.mem_map.mp h
    by_cases hxu : x.1 = u
    · rw [if_pos hxu]
      exact .inr rfl
    · rw [if_neg hxu]
      exact .inl ⟨hx, hxu⟩
  · rw [if_neg hany] at h
    rcases List.mem_append.mp h with h | h
    · exact .inl ⟨h, fun hu => hany (List.any_eq_true.mpr ⟨e, h, decide_eq_true hu⟩)⟩
    · exact .inr (List.mem_singleton.mp h)

theorem mem_merge {t : List (Nat × Nat)} {p : Pend} {e : Nat × Nat} (h : e ∈ merge t p) :
    e ∈ t ∧ (p.started = true → e.1 ≠ p.uid) ∨ e = (p.uid, p.ct) := by
  unfold merge at h
  by_cases hp : p.started = true ∨ ¬ t.any (fun e => e.1 = p.uid) = true
  · rw [if_pos hp] at h
    exact (mem_setKey h).imp_left fun h => ⟨h.1, fun _ => h.2⟩
  · rw [if_neg hp] at h
    exact .inl ⟨h, fun hs => absurd (.inl hs) hp⟩

theorem mem_insertCt {e x : Nat × Nat} {l : List (Nat × Nat)} : x ∈ insertCt e l ↔ x = e ∨ x ∈ l := by
  induction l with
  | nil => simp [insertCt]
  | cons y ys ih =>
    unfold insertCt
    by_cases hle : e.2 ≤ y.2
    · rw [if_pos hle, List.mem_cons]
    · rw [if_neg hle, List.mem_cons, ih, List.mem_cons, or_left_comm]

theorem mem_sortCt {l : List (Nat × Nat)} {x : Nat × Nat} : x ∈ sortCt l ↔ x ∈ l := by
  induction l with
  | nil => simp [sortCt]
  | cons y ys ih => rw [sortCt, List.foldr_cons, ← sortCt, mem_insertCt, ih, List.mem_cons]

def SortedCt (l : List (Nat × Nat)) : Prop := l.Pairwise (fun a b => a.2 ≤ b.2)

theorem insertCt_sorted (e : Nat × Nat) (l : List (Nat × Nat)) (h : SortedCt l) : SortedCt (insertCt e l) := by
  induction l with
  | nil => simp [insertCt, SortedCt]
  | cons y ys ih =>
    unfold insertCt
    have hy := List.pairwise_cons.mp h
    by_cases hle : e.2 ≤ y.2
    · rw [if_pos hle]
      refine List.pairwise_cons.mpr ⟨fun b hb => ?_, h⟩
      rcases List.mem_cons.mp hb with rfl | hb
      · exact hle
      · exact Nat.le_trans hle (hy.1 b hb)
    · rw [if_neg hle]
      refine List.pairwise_cons.mpr ⟨fun b hb => ?_, ih hy.2⟩
      rcases mem_insertCt.mp hb with rfl | hb
      · exact Nat.le_of_not_le hle
      · exact hy.1 b hb

theorem sortCt_sorted (l : List (Nat × Nat)) : SortedCt (sortCt l) := by
  induction l with
  | nil => simp [sortCt, SortedCt]
  | cons y ys ih => exact insertCt_sorted y _ ih

theorem mem_takeWhile_lt {l : List (Nat × Nat)} (h : SortedCt l) {now : Nat} {x : Nat × Nat} :
    x ∈ l.takeWhile (fun e => decide (e.2 < now)) ↔ x ∈ l ∧ x.2 < now := by
  induction l with
  | nil => simp
  | cons y ys ih =>
    have hy := List.pairwise_cons.mp h
    by_cases hlt : y.2 < now
    · rw [List.takeWhile_cons, if_pos (decide_eq_true hlt), List.mem_cons, List.mem_cons, ih hy.2, or_and_right]
      refine or_congr_left ⟨fun e => ⟨e, ?_⟩, And.left⟩
      rw [e]
      exact hlt
    · rw [List.takeWhile_cons, if_neg fun h => hlt (of_decide_eq_true h)]
      refine ⟨fun hm => absurd hm List.not_mem_nil, fun ⟨hm, hx⟩ => ?_⟩
      rcases List.mem_cons.mp hm with rfl | hm
      · exact absurd hx hlt
      · exact absurd (Nat.lt_of_le_of_lt (hy.1 x hm) hx) hlt

/-- **what one pass cancels**: the tasks whose entry, after taking in what was handed to the watcher, carries a
    real deadline (nonzero) that lies in the past -/
theorem mem_pass {w : TW} {now u : Nat} :
    u ∈ (pass w now).2 ↔ ∃ ct, (u, ct) ∈ w.pending.foldl merge w.table ∧ ct ≠ 0 ∧ ct < now := by
  simp only [pass, List.mem_map, List.mem_filter, mem_takeWhile_lt (sortCt_sorted _), mem_sortCt]
  constructor
  · rintro ⟨e, ⟨⟨hm, hlt⟩, hne⟩, rfl⟩
    exact ⟨e.2, hm, by simpa using hne, hlt⟩
  · rintro ⟨ct, hm, hne, hlt⟩
    exact ⟨(u, ct), ⟨⟨hm, hlt⟩, by simpa using hne⟩, rfl⟩

theorem Inv.merged {H : List (Nat × Ev)} {w : TW} (h : Inv H w) :
    ∀ e ∈ w.pending.foldl merge w.table, e.2 ≠ 0 → Justified H e.1 e.2 := by
  refine List.foldlRecOn (motive := fun t => ∀ e ∈ t, e.2 ≠ 0 → Justified H e.1 e.2) w.pending merge h.tab ?_
  intro t ih p hp e he hne
  rcases mem_merge he with h1 | rfl
  · exact ih e h1.1 hne
  · exact h.pend p hp hne

theorem Inv.push {H : List (Nat × Ev)} {w : TW} (h : Inv H w) (p : Pend) (hp : p.ct ≠ 0 → Justified H p.uid p.ct) :
    Inv H { w with pending := w.pending ++ [p] } := by
  refine ⟨fun q hq hct => ?_, h.tab⟩
  rcases List.mem_append.mp hq with hq | hq
  · exact h.pend q hq hct
  · obtain rfl := List.mem_singleton.mp hq
    exact hp hct

theorem step_inv (H : List (Nat × Ev)) (w : TW) (t : Nat) (e : Ev) (he : (t, e) ∈ H) (h : Inv H w) :
    Inv H (step w t e).1 := by
  cases e with
  | reg u st et =>
    show Inv H (handleTimeout w t u st et)
    unfold handleTimeout
    by_cases hne : st ≠ 0 ∨ et ≠ 0
    · rw [if_pos hne]
      refine h.push _ fun _ => ⟨t, (if st ≠ 0 then st else et), ?_, rfl, .inl ⟨st, et, he, rfl⟩⟩
      by_cases hs : st ≠ 0
      · rwa [if_pos hs]
      · rw [if_neg hs]
        exact hne.resolve_left hs
    · rw [if_neg hne]
      exact h
  | done u et =>
    show Inv H (startupDone w t u et)
    unfold startupDone
    by_cases hg : w.gone.contains u = true
    · rw [if_pos hg]
      exact h
    · rw [if_neg hg]
      refine h.push _ fun hct => ?_
      -- the cancel time is `if et ≠ 0 then et + t else 0`, and it is not 0
      have h0 : et ≠ 0 := fun h0 => hct (if_neg (not_not_intro h0))
      exact ⟨t, et, h0, by rw [if_pos h0, Nat.add_comm], .inr he⟩
  | pass => exact ⟨fun _ hp => absurd hp List.not_mem_nil, fun e he => h.merged e (List.mem_filter.mp he).1⟩

theorem run_cons (w : TW) (t : Nat) (e : Ev) (rest : List (Nat × Ev)) :
    run w ((t, e) :: rest)
      = ((run (step w t e).1 rest).1, (step w t e).2.map (fun u => (t, u)) ++ (run (step w t e).1 rest).2) := rfl

/-- `H` is the whole history, `hist` the part of it still to run from `w` -/
theorem run_justified (H : List (Nat × Ev)) (w : TW) (hist : List (Nat × Ev)) (hsub : ∀ x ∈ hist, x ∈ H) (h : Inv H w)
    (t u : Nat) (hc : (t, u) ∈ (run w hist).2) : ∃ ct, ct < t ∧ Justified H u ct := by
  induction hist generalizing w with
  | nil => cases hc
  | cons x rest ih =>
    obtain ⟨t1, e⟩ := x
    obtain ⟨hx, hrest⟩ := List.forall_mem_cons.mp hsub
    rw [run_cons] at hc
    rcases List.mem_append.mp hc with hc | hc
    · obtain ⟨u', hu', heq⟩ := List.mem_map.mp hc
      obtain ⟨rfl, rfl⟩ := Prod.mk.inj heq
      cases e with
      | pass =>
        obtain ⟨ct, hm, h0, hlt⟩ := mem_pass.mp hu'
        exact ⟨ct, hlt, h.merged _ hm h0⟩
      | _ => cases hu'
    · exact ih _ hrest (step_inv H w t1 e hx h) hc

def AllFor (t : List (Nat × Nat)) (u c : Nat) : Prop := ∀ e ∈ t, e.1 = u → e.2 = c

theorem merge_started (t : List (Nat × Nat)) (p : Pend) (hs : p.started = true) : AllFor (merge t p) p.uid p.ct := by
  intro e he hu
  rcases mem_merge he with h | rfl
  · exact absurd hu (h.2 hs)
  · rfl

theorem merge_other (t : List (Nat × Nat)) (p : Pend) (u c : Nat) (hne : p.uid ≠ u) (h : AllFor t u c) :
    AllFor (merge t p) u c := by
  intro e he hu
  rcases mem_merge he with he | rfl
  · exact h e he.1 hu
  · exact absurd hu hne

/-- if the last entry handed to the watcher for `u` is a reported startup without an execution
    timeout, the next pass does not cancel `u`, whenever it runs -/
theorem pass_after_startup (w : TW) (xs ys : List Pend) (u now : Nat)
    (hp : w.pending = xs ++ [{ uid := u, ct := 0, started := true }] ++ ys) (hys : ∀ p ∈ ys, p.uid ≠ u) :
    u ∉ (pass w now).2 := by
  intro hc
  obtain ⟨ct, hm, hne, _⟩ := mem_pass.mp hc
  rw [hp, List.foldl_append, List.foldl_append] at hm
  -- the reported startup leaves cancel time 0 for `u`, and the entries after it are for other tasks
  have h0 := List.foldlRecOn (motive := fun t => AllFor t u 0) ys merge
    (merge_started (xs.foldl merge w.table) { uid := u, ct := 0, started := true } rfl)
    fun t ht q hq => merge_other t q u 0 (hys q hq) ht
  exact hne (h0 _ hm rfl)

def Quiet (u : Nat) : Ev → Prop
  | .reg a _ _ => a ≠ u
  | .done a _  => a ≠ u
  | .pass      => False

theorem step_quiet (w : TW) (t u : Nat) (e : Ev) (hq : Quiet u e) :
    ∃ zs, (step w t e).1.pending = w.pending ++ zs ∧ (∀ p ∈ zs, p.uid ≠ u) ∧ (step w t e).2 = [] := by
  cases e with
  | pass => cases hq
  | reg a st et =>
    show ∃ zs, (handleTimeout w t a st et).pending = _ ∧ _ ∧ _
    unfold handleTimeout
    by_cases h : st ≠ 0 ∨ et ≠ 0
    · rw [if_pos h]
      exact ⟨[_], rfl, fun p hp => List.mem_singleton.mp hp ▸ hq, rfl⟩
    · rw [if_neg h]
      exact ⟨[], (List.append_nil _).symm, nofun, rfl⟩
  | done a et =>
    show ∃ zs, (startupDone w t a et).pending = _ ∧ _ ∧ _
    unfold startupDone
    by_cases h : w.gone.contains a = true
    · rw [if_pos h]
      exact ⟨[], (List.append_nil _).symm, nofun, rfl⟩
    · rw [if_neg h]
      exact ⟨[_], rfl, fun p hp => List.mem_singleton.mp hp ▸ hq, rfl⟩

theorem run_quiet (w : TW) (u : Nat) (evs : List (Nat × Ev)) (hq : ∀ x ∈ evs, Quiet u x.2) :
    ∃ ys, (run w evs).1.pending = w.pending ++ ys ∧ (∀ p ∈ ys, p.uid ≠ u) ∧ (run w evs).2 = [] := by
  induction evs generalizing w with
  | nil => exact ⟨[], (List.append_nil _).symm, nofun, rfl⟩
  | cons x rest ih =>
    obtain ⟨t, e⟩ := x
    obtain ⟨hqe, hqrest⟩ := List.forall_mem_cons.mp hq
    obtain ⟨zs, z1, z2, z3⟩ := step_quiet w t u e hqe
    obtain ⟨ys, h1, h2, h3⟩ := ih (step w t e).1 hqrest
    refine ⟨zs ++ ys, by rw [run_cons, h1, z1, List.append_assoc], fun p hp => ?_, by rw [run_cons, z3, h3]; rfl⟩
    exact (List.mem_append.mp hp).elim (z2 p) (h2 p)

/-- a task with a startup timeout whose startup is never reported is cancelled at the first pass after
    the deadline (single task, nothing else registered) -/
theorem startup_timeout_enforced (t st et now : Nat) (hst : st ≠ 0) (hlt : t + st < now) :
    (pass (handleTimeout {} t 0 st et) now).2 = [0] := by
  have hw : handleTimeout {} t 0 st et = { pending := [{ uid := 0, ct := t + st, started := false }] } := by
    rw [handleTimeout, if_pos (Or.inl hst), if_pos hst, decide_eq_false hst]
    rfl
  have ht : (pass (handleTimeout {} t 0 st et) now).2
      = (([(0, t + st)].takeWhile (fun e => decide (e.2 < now))).filter (fun e => e.2 ≠ 0)).map (·.1) := by
    rw [hw]; rfl
  have h0 : t + st ≠ 0 := fun h => hst (Nat.eq_zero_of_add_eq_zero_left h)
  simp only [ht, List.takeWhile_cons, List.takeWhile_nil, List.filter_cons, List.filter_nil, List.map_cons, List.map_nil,
    decide_eq_true hlt, decide_eq_true h0, if_true]

end RPVerif.Timeout
