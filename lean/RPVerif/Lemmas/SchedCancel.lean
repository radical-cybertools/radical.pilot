import RPVerif.Lemmas.SchedConserve
/-!
Who is reported CANCELED by the agent scheduler (C08): over a whole history of the scheduling loop, only tasks named by
a cancel message or a cancel mark.  A uid that nobody names stays `Clean` (not on the cancel list, not reported
CANCELED) through every stage of every iteration.
-/
namespace RPVerif.Sched
open List

def canceledUids (evs : List Ev) : List Nat :=
  evs.filterMap (fun e => match e with | .adv u st => if st = "CANCELED" then some u else none)

@[simp] theorem canceledUids_nil : canceledUids [] = [] := rfl
@[simp] theorem canceledUids_append (a b : List Ev) : canceledUids (a ++ b) = canceledUids a ++ canceledUids b := by
  simp [canceledUids, filterMap_append]

theorem started_ne_canceled : "AGENT_EXECUTING_PENDING" ≠ "CANCELED" := by simp
theorem failed_ne_canceled : "FAILED" ≠ "CANCELED" := by simp

theorem canceledUids_map_ne (l : List Req) (st : String) (h : st ≠ "CANCELED") :
    canceledUids (l.map (fun t => Ev.adv t.uid st)) = [] := by
  simp [canceledUids, h]

theorem canceledUids_adv_ne (evs : List Ev) (v : Nat) (st : String) (h : st ≠ "CANCELED") :
    canceledUids (evs ++ [Ev.adv v st]) = canceledUids evs := by
  simp [canceledUids, h]

theorem canceledUids_adv (evs : List Ev) (v : Nat) :
    canceledUids (evs ++ [Ev.adv v "CANCELED"]) = canceledUids evs ++ [v] := by
  simp [canceledUids]

theorem incomingOne_canceled (c : Cfg) (ts : List Req) (s : SchedSt) (toWait : List Req) (evs : List Ev) :
    canceledUids (incomingOne c s ts toWait evs).2.2 = canceledUids evs := by
  fun_induction incomingOne c s ts toWait evs
  case case1 => rfl
  case case2 ih | case5 ih | case8 ih => exact ih
  case case6 ih | case9 ih => rw [ih, canceledUids_adv_ne _ _ _ failed_ne_canceled]
  -- the other three: the task is started
  all_goals
    rename_i ih
    rw [ih, canceledUids_adv_ne _ _ _ started_ne_canceled]

structure Clean (u : Nat) (s : SchedSt) (evs : List Ev) : Prop where
  mark : u ∉ s.cancel
  ev   : u ∉ canceledUids evs

theorem Clean.append {u : Nat} {s s' : SchedSt} {evs evs' : List Ev} (h : Clean u s evs) (h' : Clean u s' evs') :
    Clean u s' (evs ++ evs') :=
  ⟨h'.mark, by rw [canceledUids_append, mem_append]; exact fun hx => hx.elim h.ev h'.ev⟩

theorem waitpoolOne_clean {u : Nat} (c : Cfg) (s : SchedSt) (p : Int) (h : Clean u s []) :
    Clean u (waitpoolOne c s p).1 (waitpoolOne c s p).2.1 := by
  rw [waitpoolOne_eq]
  split
  · exact h
  · refine ⟨by rw [(lazyBisect_tried c (wpData s p) s).untouched.cancel]; exact h.mark, ?_⟩
    show u ∉ canceledUids (_ ++ _)
    rw [canceledUids_append, canceledUids_map_ne _ _ failed_ne_canceled, canceledUids_map_ne _ _ started_ne_canceled]
    exact not_mem_nil

theorem scheduleWaitpool_clean {u : Nat} (c : Cfg) (s : SchedSt) (h : Clean u s []) :
    Clean u (scheduleWaitpool c s).1 (scheduleWaitpool c s).2.1 := by
  rw [scheduleWaitpool_eq]
  exact List.foldlRecOn (motive := fun (acc : SchedSt × List Ev × Bool × Bool) => Clean u acc.1 acc.2.1) _ _ h
    (fun acc ha p _ => ha.append (waitpoolOne_clean c acc.1 p ⟨ha.mark, not_mem_nil⟩))

theorem cancelStep_clean {u uid : Nat} (hne : u ≠ uid) (acc : SchedSt × List Ev) (h : Clean u acc.1 acc.2) :
    Clean u (cancelStep acc uid).1 (cancelStep acc uid).2 := by
  unfold cancelStep
  rcases hr : removeFromPools acc.1.waitpool uid with ⟨wp', _ | t⟩
  · exact h
  · refine ⟨h.mark, ?_⟩
    -- the task reported is the one the message names
    rw [canceledUids_adv, mem_append, mem_singleton, removeFromPools_uid _ _ t (by rw [hr])]
    exact fun hx => hx.elim h.ev hne

/-- the uids named by the cancel messages of an iteration -/
def namedM (msgs : List Msg) : List Nat :=
  msgs.flatMap (fun m => match m with | .cancel us => us | .sched _ => [])

theorem drainIncoming_clean {u : Nat} (msgs : List Msg) (hn : u ∉ namedM msgs) :
    ∀ (s : SchedSt) (toSched : List Req) (evs : List Ev), Clean u s evs →
      Clean u (drainIncoming s msgs toSched evs).1 (drainIncoming s msgs toSched evs).2.2 := by
  induction msgs with
  | nil => intro s toSched evs h; exact h
  | cons m ms ih =>
    intro s toSched evs h
    cases m with
    | sched ts =>
      rw [drainIncoming_sched]
      refine ih hn _ _ _ ⟨h.mark, ?_⟩
      rw [canceledUids_append, canceledUids_map_ne _ _ failed_ne_canceled, append_nil]
      exact h.ev
    | cancel us =>
      rw [drainIncoming_cancel]
      obtain ⟨hus, hms⟩ : u ∉ us ∧ u ∉ namedM ms := not_or.mp (fun hx => hn (mem_append.mpr hx))
      have hf := List.foldlRecOn (motive := fun (acc : SchedSt × List Ev) => Clean u acc.1 acc.2) us cancelStep
        (b := (s, [])) ⟨h.mark, not_mem_nil⟩ (fun acc ha uid huid => cancelStep_clean (fun (e : u = uid) => hus (e ▸ huid)) acc ha)
      exact ih hms _ _ _ (h.append hf)

theorem parkTasks_clean {u : Nat} (p : Int) (ts : List Req) (s : SchedSt) (evs : List Ev) (h : Clean u s evs) :
    Clean u (parkTasks p s ts evs).1 (parkTasks p s ts evs).2 := by
  fun_induction parkTasks p s ts evs
  case case1 => exact h
  case case2 s t ts evs hc ih =>
    -- a marked task is reported and taken off the cancel list; `u` is not marked, so it is another one
    refine ih ⟨fun hx => h.mark (mem_of_mem_erase hx), ?_⟩
    rw [canceledUids_adv, mem_append, mem_singleton]
    exact fun hx => hx.elim h.ev (fun e => h.mark (e ▸ hc))
  case case3 ih => exact ih ⟨h.mark, h.ev⟩

theorem incStep_clean {u : Nat} (c : Cfg) (toSched : List Req) (acc : SchedSt × List Ev × Bool) (p : Int)
    (h : Clean u acc.1 acc.2.1) : Clean u (incStep c toSched acc p).1 (incStep c toSched acc p).2.1 := by
  simp only [incStep]
  -- placement cancels nobody and leaves the cancel list alone
  have hio : Clean u (incomingOne c acc.1 (incData toSched p) [] []).1 (incomingOne c acc.1 (incData toSched p) [] []).2.2 :=
    ⟨by rw [(incomingOne_tried c _ acc.1 [] []).untouched.cancel]; exact h.mark, by rw [incomingOne_canceled]; exact not_mem_nil⟩
  exact (h.append hio).append (parkTasks_clean p _ _ [] ⟨hio.mark, not_mem_nil⟩)

theorem scheduleIncoming_clean {u : Nat} (c : Cfg) (s : SchedSt) (msgs : List Msg) (hn : u ∉ namedM msgs)
    (h : Clean u s []) : Clean u (scheduleIncoming c s msgs).1 (scheduleIncoming c s msgs).2.1 := by
  rw [(scheduleIncoming_fold c s msgs).1, (scheduleIncoming_fold c s msgs).2]
  exact List.foldlRecOn (motive := fun (acc : SchedSt × List Ev × Bool) => Clean u acc.1 acc.2.1) _ _
    (drainIncoming_clean msgs hn s [] [] h) (fun acc ha p _ => incStep_clean c _ acc p ha)

theorem loopIterA_clean {u : Nat} (c : Cfg) (s : SchedSt) (res : Bool) (it : Iter) (hm : u ∉ it.marks)
    (hn : u ∉ namedM it.incoming) (h : u ∉ s.cancel) :
    Clean u (loopIterA c s res it).1 (loopIterA c s res it).2.2 := by
  rw [loopIterA_fst, loopIterA_evs]
  -- the marks that arrived: `u` is not among them
  have h0 : Clean u (arrive s it) [] := ⟨fun hx => (mem_append.mp hx).elim h hm, not_mem_nil⟩
  have hp : Clean u (wpPass c (arrive s it) res).1 (wpPass c (arrive s it) res).2.1 := by
    unfold wpPass
    split
    · exact scheduleWaitpool_clean c (arrive s it) h0
    · exact h0
  exact hp.append (scheduleIncoming_clean c _ it.incoming hn ⟨hp.mark, not_mem_nil⟩)

theorem loopIter_clean {u : Nat} (c : Cfg) (s : SchedSt) (res : Bool) (it : Iter) (hm : u ∉ it.marks)
    (hn : u ∉ namedM it.incoming) (h : u ∉ s.cancel) :
    Clean u (loopIter c s res it).1 (loopIter c s res it).2.2 := by
  obtain ⟨ns, a, q, hh, e⟩ := unscheduleCompleted_writes (loopIterA c s res it).1 it.unsched
  rw [loopIter_fst, loopIter_evs, e]
  -- `_unschedule_completed` writes neither the cancel list nor events
  have hA := loopIterA_clean c s res it hm hn h
  exact ⟨hA.mark, hA.ev⟩

/-- a uid that no cancel message and no cancel mark of the history names -/
def unnamed (u : Nat) (its : List Iter) : Prop := ∀ it ∈ its, u ∉ it.marks ∧ u ∉ namedM it.incoming

/-- a uid that nobody names stays clean along the whole run: never reported CANCELED, never on the cancel list -/
theorem runLoop_canceled (c : Cfg) (u : Nat) (its : List Iter) :
    ∀ (s : SchedSt) (res : Bool) (acc : List (List Ev)), u ∉ s.cancel → u ∉ canceledUids acc.flatten → unnamed u its →
      u ∉ canceledUids (runLoop c s res its acc).2.2.flatten ∧ u ∉ (runLoop c s res its acc).1.cancel := by
  induction its with
  | nil => intro s res acc h1 h2 _; exact ⟨h2, h1⟩
  | cons it its ih =>
    intro s res acc h1 h2 hn
    rw [runLoop_cons]
    obtain ⟨hmarks, hmsgs⟩ := hn it mem_cons_self
    have hl := loopIter_clean c s res it hmarks hmsgs h1
    refine ih _ _ (acc ++ [(loopIter c s res it).2.2]) hl.mark ?_ (fun it' hit' => hn it' (mem_cons_of_mem _ hit'))
    rw [flatten_append, flatten_singleton, canceledUids_append, mem_append]
    exact fun hx => hx.elim h2 hl.ev

end RPVerif.Sched
