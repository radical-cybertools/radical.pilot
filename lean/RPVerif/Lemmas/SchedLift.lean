import RPVerif.Lemmas.BisectAll
/-!
The storeys of the scheduling loop, bottom up: `tryAllocation`; `lazyBisect` and `incomingOne` (calls of it); `waitpoolOne`,
`incStep`, `cancelStep` (one priority, one uid); `scheduleWaitpool`, `scheduleIncoming` (folds of those); `loopIterA`,
`loopIter` (an iteration); `runLoop`.
-/
namespace RPVerif.Sched
open List

/-- the fields `_try_allocation` never writes -/
structure Untouched (s s' : SchedSt) : Prop where
  waitpool : s'.waitpool = s.waitpool
  envs     : s'.envs = s.envs
  cancel   : s'.cancel = s.cancel
  unschedQ : s'.unschedQ = s.unschedQ

theorem Untouched.trans {a b c : SchedSt} (h1 : Untouched a b) (h2 : Untouched b c) : Untouched a c :=
  ⟨h2.waitpool.trans h1.waitpool, h2.envs.trans h1.envs, h2.cancel.trans h1.cancel, h2.unschedQ.trans h1.unschedQ⟩

theorem scheduleTask_writes {c : Cfg} {s : SchedSt} {r : Req} {res : Except Err (Option (List Slot))} {s1 : SchedSt}
    (hs : scheduleTask c s r = (res, s1)) : ∃ off ch tg, s1 = { s with offset := off, coloHist := ch, tagged := tg } := by
  obtain rfl : (scheduleTask c s r).2 = s1 := by rw [hs]
  fun_cases scheduleTask c s r
  case case4 it _ => fun_cases finishTask s r it <;> exact ⟨_, _, _, rfl⟩
  all_goals exact ⟨_, _, _, rfl⟩

/-- third case: the node map refuses the slots (RuntimeError; the counter is raised all the same) -/
theorem tryAllocation_cases (c : Cfg) (s : SchedSt) (r : Req) {res : Except Err (Option (List Slot))} {s1 : SchedSt}
    (hs : scheduleTask c s r = (res, s1)) :
    (∃ e, tryAllocation c s r = (.error e, s1))
    ∨ tryAllocation c s r = (.ok false, s1)
    ∨ (∃ slots, res = .ok (some slots) ∧ changeSlotStates s1.nodes slots true = none
        ∧ tryAllocation c s r = (.error .runtime, { s1 with activeCnt := s1.activeCnt + 1 }))
    ∨ (∃ slots ns, res = .ok (some slots) ∧ changeSlotStates s1.nodes slots true = some ns
        ∧ tryAllocation c s r
            = (.ok true, { s1 with nodes := ns, activeCnt := s1.activeCnt + 1,
                                   given := s1.given.filter (fun e => e.1 ≠ r.uid) ++ [(r.uid, slots)],
                                   held := s1.held ++ [(r.uid, slots)] })) := by
  fun_cases tryAllocation c s r
  case case1 e s' h => cases hs.symm.trans h; exact Or.inl ⟨e, rfl⟩
  case case2 s' h _ | case4 s' h _ => cases hs.symm.trans h; exact Or.inl ⟨_, rfl⟩
  case case3 s' h _ | case5 s' h _ => cases hs.symm.trans h; exact Or.inr (Or.inl rfl)
  case case6 slots s' _ h hc => cases hs.symm.trans h; exact Or.inr (Or.inr (Or.inl ⟨_, rfl, hc, rfl⟩))
  case case7 slots s' _ h ns hc => cases hs.symm.trans h; exact Or.inr (Or.inr (Or.inr ⟨_, _, rfl, hc, rfl⟩))

theorem tryAllocation_untouched (c : Cfg) (s : SchedSt) (r : Req) : Untouched s (tryAllocation c s r).2 := by
  rcases hs : scheduleTask c s r with ⟨res, s1⟩
  obtain ⟨off, ch, tg, rfl⟩ := scheduleTask_writes hs
  rcases tryAllocation_cases c s r hs with ⟨_, e⟩ | e | ⟨_, _, _, e⟩ | ⟨_, _, _, _, e⟩ <;> rw [e] <;>
    exact ⟨rfl, rfl, rfl, rfl⟩

/-- `given`: the slots a task is handed on with -/
inductive Tried (c : Cfg) : SchedSt → SchedSt → Prop
  | refl (s : SchedSt) : Tried c s s
  | step (r : Req) {s s' : SchedSt} : Tried c (tryAllocation c s r).2 s' → Tried c s s'
  | given (g : List (Nat × List Slot)) {s s' : SchedSt} : Tried c { s with given := g } s' → Tried c s s'

theorem Tried.untouched {c : Cfg} {s s' : SchedSt} (h : Tried c s s') : Untouched s s' := by
  induction h with
  | refl s => exact ⟨rfl, rfl, rfl, rfl⟩
  | step r _ ih => exact (tryAllocation_untouched c _ r).trans ih
  | given g _ ih => exact ⟨ih.waitpool, ih.envs, ih.cancel, ih.unschedQ⟩

theorem bisLoop_tried (c : Cfg) (data : List Req) :
    ∀ (fuel : Nat) (b : BisSt) (s : SchedSt), Tried c s (bisLoop c data fuel b s).2 := by
  intro fuel
  induction fuel with
  | zero => intro b s; exact Tried.refl s
  | succ k ih =>
    intro b s
    rw [bisLoop_succ]
    cases hnx : bisNext c data b s with
    | none => exact Tried.refl s
    | some p =>
      rcases bisNext_state c data b s p hnx with h | ⟨r, h⟩
      · rw [← h]; exact ih p.1 p.2
      · exact Tried.step r (by rw [← h]; exact ih p.1 p.2)

theorem lazyBisect_tried (c : Cfg) (data : List Req) (s : SchedSt) : Tried c s (lazyBisect c data s).2 := by
  unfold lazyBisect
  split
  · exact Tried.refl s
  · exact bisLoop_tried c data _ _ s

theorem incomingOne_tried (c : Cfg) (ts : List Req) (s : SchedSt) (toWait : List Req) (evs : List Ev) :
    Tried c s (incomingOne c s ts toWait evs).1 := by
  fun_induction incomingOne c s ts toWait evs
  case case1 => exact Tried.refl _
  case case2 ih => exact ih
  case case3 ih => exact Tried.given _ ih
  -- the other six: one call of `_try_allocation`, whatever its answer
  all_goals
    rename_i s' h ih
    exact Tried.step _ (by rw [h]; exact ih)

def wpData (s : SchedSt) (p : Int) : List Req :=
  sortDesc (fun r => r.ranks * r.cpr * r.gpr) ((poolOf s.waitpool p).filter (envOk s.envs))

theorem waitpoolOne_eq (c : Cfg) (s : SchedSt) (p : Int) :
    waitpoolOne c s p
      = if (poolOf s.waitpool p).filter (envOk s.envs) = [] then (s, [], false, false)
        else
          match lazyBisect c (wpData s p) s with
          | (b, s') =>
            ({ s' with waitpool := setPool s'.waitpool p
                                     (pickIdx (wpData s p) b.bad ++ (poolOf s.waitpool p).filter (envWait s.envs)) },
             (pickIdx (wpData s p) b.fail).map (fun r => Ev.adv r.uid "FAILED")
               ++ (pickIdx (wpData s p) b.good).map (fun r => Ev.adv r.uid "AGENT_EXECUTING_PENDING"),
             decide (b.good ≠ []), decide (b.bad ≠ [])) := by
  unfold waitpoolOne
  simp only
  by_cases h : poolOf s.waitpool p = []
  · rw [if_pos h, h, filter_nil, if_pos rfl]
  · rw [if_neg h]; rfl

def wpStep (c : Cfg) (acc : SchedSt × List Ev × Bool × Bool) (p : Int) : SchedSt × List Ev × Bool × Bool :=
  let w := waitpoolOne c acc.1 p
  (w.1, acc.2.1 ++ w.2.1, acc.2.2.1 && !w.2.2.2, acc.2.2.2 || w.2.2.1)

theorem scheduleWaitpool_eq (c : Cfg) (s : SchedSt) :
    scheduleWaitpool c s = (prios s.waitpool).foldl (wpStep c) (s, [], true, false) := rfl

def cancelStep (acc : SchedSt × List Ev) (uid : Nat) : SchedSt × List Ev :=
  match removeFromPools acc.1.waitpool uid with
  | (wp, some t) => ({ acc.1 with waitpool := wp }, acc.2 ++ [Ev.adv t.uid "CANCELED"])
  | (_,  none)   => acc

theorem drainIncoming_cancel (s : SchedSt) (uids : List Nat) (ms : List Msg) (toSched : List Req) (evs : List Ev) :
    drainIncoming s (.cancel uids :: ms) toSched evs
      = drainIncoming (uids.foldl cancelStep (s, [])).1 ms toSched (evs ++ (uids.foldl cancelStep (s, [])).2) := rfl

theorem drainIncoming_sched (s : SchedSt) (ts : List Req) (ms : List Msg) (toSched : List Req) (evs : List Ev) :
    drainIncoming s (.sched ts :: ms) toSched evs
      = drainIncoming s ms (toSched ++ ts.filter (fun t => t.ranks > 0))
          (evs ++ (ts.filter (fun t => t.ranks ≤ 0)).map (fun t => Ev.adv t.uid "FAILED")) := rfl

theorem cancelFold_writes (uids : List Nat) (s : SchedSt) (evs : List Ev) :
    ∃ wp, (uids.foldl cancelStep (s, evs)).1 = { s with waitpool := wp } := by
  refine List.foldlRecOn (motive := fun acc => ∃ wp, acc.1 = { s with waitpool := wp }) uids cancelStep
    (b := (s, evs)) ⟨_, rfl⟩ ?_
  rintro acc ⟨wp, h⟩ uid _
  unfold cancelStep
  split
  · exact ⟨_, by rw [h]⟩
  · exact ⟨wp, h⟩

theorem drainIncoming_writes (msgs : List Msg) :
    ∀ (s : SchedSt) (toSched : List Req) (evs : List Ev),
      ∃ wp, (drainIncoming s msgs toSched evs).1 = { s with waitpool := wp } := by
  induction msgs with
  | nil => intro s _ _; exact ⟨_, rfl⟩
  | cons m ms ih =>
    intro s toSched evs
    cases m with
    | sched ts => rw [drainIncoming_sched]; exact ih _ _ _
    | cancel uids =>
      rw [drainIncoming_cancel]
      obtain ⟨wp, h⟩ := cancelFold_writes uids s []
      obtain ⟨wp', h'⟩ := ih (uids.foldl cancelStep (s, [])).1 toSched (evs ++ (uids.foldl cancelStep (s, [])).2)
      exact ⟨wp', by rw [h', h]⟩

theorem parkTasks_writes (p : Int) (ts : List Req) (s : SchedSt) (evs : List Ev) :
    ∃ wp ck, (parkTasks p s ts evs).1 = { s with waitpool := wp, cancel := ck } := by
  fun_induction parkTasks p s ts evs
  case case1 => exact ⟨_, _, rfl⟩
  case case2 ih | case3 ih => exact ih

def incData (toSched : List Req) (p : Int) : List Req :=
  sortDesc (fun r => r.ranks) (toSched.filter (fun t => t.prio = p))

def incStep (c : Cfg) (toSched : List Req) (acc : SchedSt × List Ev × Bool) (p : Int) : SchedSt × List Ev × Bool :=
  let io := incomingOne c acc.1 (incData toSched p) [] []
  let pk := parkTasks p io.1 io.2.1 []
  (pk.1, acc.2.1 ++ io.2.2 ++ pk.2, io.2.1 = [])

theorem scheduleIncoming_eq (c : Cfg) (s : SchedSt) (msgs : List Msg) :
    scheduleIncoming c s msgs
      = match drainIncoming s msgs [] [] with
        | (s1, toSched, evs) =>
          if toSched = [] then (s1, evs, none, false)
          else
            (fun (r : SchedSt × List Ev × Bool) => (r.1, r.2.1, some r.2.2, true))
              ((distinctPriosDesc toSched).foldl (incStep c toSched) (s1, evs, true)) := rfl

/-- `_schedule_incoming` without its flags -/
def incFold (c : Cfg) (s : SchedSt) (msgs : List Msg) : SchedSt × List Ev × Bool :=
  let d := drainIncoming s msgs [] []
  (distinctPriosDesc d.2.1).foldl (incStep c d.2.1) (d.1, d.2.2, true)

/-- the early exit (nothing to schedule) only matters for the flags: there is no priority to pass over then -/
theorem scheduleIncoming_fold (c : Cfg) (s : SchedSt) (msgs : List Msg) :
    (scheduleIncoming c s msgs).1 = (incFold c s msgs).1 ∧ (scheduleIncoming c s msgs).2.1 = (incFold c s msgs).2.1 := by
  rw [scheduleIncoming_eq]
  unfold incFold
  generalize drainIncoming s msgs [] [] = d
  obtain ⟨s1, toSched, evs⟩ := d
  dsimp only
  split
  · rename_i h
    subst h
    exact ⟨rfl, rfl⟩
  · exact ⟨rfl, rfl⟩

theorem releaseOne_writes (s : SchedSt) (u : Nat) : ∃ ns h, releaseOne s u = { s with nodes := ns, held := h } := by
  fun_cases releaseOne s u <;> exact ⟨_, _, rfl⟩

/-- for an empty batch the code returns early: the counter would fall by 0, nothing be released -/
theorem unscheduleCompleted_fst (s : SchedSt) (msgs : List (List Nat)) :
    (unscheduleCompleted s msgs).1
      = (drained s msgs).foldl releaseOne
          { s with activeCnt := s.activeCnt - (drained s msgs).length, unschedQ := (drainUnsched (s.unschedQ ++ msgs) []).2 } := by
  unfold drained
  fun_cases unscheduleCompleted s msgs
  case case1 rest hd =>
    rw [hd]
    show ({ s with unschedQ := rest } : SchedSt) = { s with activeCnt := s.activeCnt - ((0 : Nat) : Int), unschedQ := rest }
    rw [Int.natCast_zero, Int.sub_zero]
  case case2 uids rest hd _ => rw [hd]

theorem unscheduleCompleted_writes (s : SchedSt) (msgs : List (List Nat)) :
    ∃ ns a q h, (unscheduleCompleted s msgs).1 = { s with nodes := ns, activeCnt := a, unschedQ := q, held := h } := by
  rw [unscheduleCompleted_fst]
  refine List.foldlRecOn
    (motive := fun acc => ∃ ns a q h, acc = { s with nodes := ns, activeCnt := a, unschedQ := q, held := h })
    _ releaseOne (b := { s with activeCnt := _, unschedQ := _ }) ⟨_, _, _, _, rfl⟩ ?_
  rintro acc ⟨ns, a, q, h, rfl⟩ u _
  obtain ⟨ns', h', e⟩ := releaseOne_writes { s with nodes := ns, activeCnt := a, unschedQ := q, held := h } u
  exact ⟨ns', a, q, h', e⟩

def arrive (s : SchedSt) (it : Iter) : SchedSt := { s with cancel := s.cancel ++ it.marks, envs := s.envs ++ it.envs }

def wpPass (c : Cfg) (s : SchedSt) (res : Bool) : SchedSt × List Ev × Bool × Bool :=
  if res then scheduleWaitpool c s else (s, [], false, false)

-- each of these holds by `rfl`, but dearly: the check unfolds the whole iteration before it falls back to eta for the
-- triple; unfolding the one definition by hand is cheap
theorem loopIterA_fst (c : Cfg) (s : SchedSt) (res : Bool) (it : Iter) :
    (loopIterA c s res it).1 = (scheduleIncoming c (wpPass c (arrive s it) res).1 it.incoming).1 := by
  unfold loopIterA wpPass arrive
  simp only

theorem loopIterA_evs (c : Cfg) (s : SchedSt) (res : Bool) (it : Iter) :
    (loopIterA c s res it).2.2
      = (wpPass c (arrive s it) res).2.1 ++ (scheduleIncoming c (wpPass c (arrive s it) res).1 it.incoming).2.1 := by
  unfold loopIterA wpPass arrive
  simp only

theorem loopIter_fst (c : Cfg) (s : SchedSt) (res : Bool) (it : Iter) :
    (loopIter c s res it).1 = (unscheduleCompleted (loopIterA c s res it).1 it.unsched).1 := by
  unfold loopIter
  generalize loopIterA c s res it = a
  rfl

theorem loopIter_evs (c : Cfg) (s : SchedSt) (res : Bool) (it : Iter) :
    (loopIter c s res it).2.2 = (loopIterA c s res it).2.2 := by
  unfold loopIter
  generalize loopIterA c s res it = a
  rfl

theorem runLoop_cons (c : Cfg) (s : SchedSt) (res : Bool) (it : Iter) (its : List Iter) (acc : List (List Ev)) :
    runLoop c s res (it :: its) acc
      = runLoop c (loopIter c s res it).1 (loopIter c s res it).2.1 its (acc ++ [(loopIter c s res it).2.2]) := by
  rw [runLoop]

end RPVerif.Sched
