import RPVerif.Model.JsrunSched
import RPVerif.Lemmas.ListAux
/-! The JSRUN scheduler (C01), described node by node (`slotsOn`) as the model works: `FitsNode` is what one node can serve,
`NodeInv` what holds of one node over a history. -/
namespace RPVerif.JsrunSched
open RPVerif.Sched (Occ NodeSt Err)

/-- `split at h` for an `if`, by hand (far cheaper to check on the large `if`s of the model) -/
theorem eq_of_ite_eq {α : Type} {c : Prop} [Decidable c] {a b x : α} (h : (if c then a else b) = x) :
    c ∧ a = x ∨ ¬c ∧ b = x := by
  by_cases hc : c
  · exact .inl ⟨hc, (if_pos hc).symm.trans h⟩
  · exact .inr ⟨hc, (if_neg hc).symm.trans h⟩

theorem sum_map_const {α : Type} (f : α → Nat) (v : Nat) (l : List α) (h : ∀ s ∈ l, f s = v) :
    (l.map f).sum = l.length * v := by
  rw [List.map_eq_replicate_iff.mpr h, List.sum_replicate_nat]

section
variable {α β : Type} {g : α → List β} {p : α → Bool}

theorem sublist_flatMap {l₁ l₂ : List α} (h : l₁.Sublist l₂) : (l₁.flatMap g).Sublist (l₂.flatMap g) := by
  induction h with
  | slnil => exact .slnil
  | cons a _ ih => exact List.flatMap_cons ▸ ih.trans (List.sublist_append_right _ _)
  | cons_cons a _ ih => exact List.flatMap_cons ▸ List.flatMap_cons ▸ (List.Sublist.refl _).append ih

theorem flatMap_filter_disjoint {l : List α} (hnd : (l.flatMap g).Nodup) {e : α} (he : e ∈ l) (hp : p e = false)
    {k : β} (hk : k ∈ (l.filter p).flatMap g) : k ∉ g e := by
  have hperm := (List.filter_append_perm p l).flatMap_right g
  rw [List.flatMap_append] at hperm
  have hdis := (List.nodup_append.mp (hperm.nodup_iff.mpr hnd)).2.2
  have hdropped : e ∈ l.filter (fun x => !p x) := List.mem_filter.mpr ⟨he, by rw [hp]; rfl⟩
  exact fun hke => hdis k hk k (List.mem_flatMap.mpr ⟨e, hdropped, hke⟩) rfl

end

theorem ceil16_ge (x : Nat) : x ≤ ceil16 x * 16 := by
  unfold ceil16; omega

theorem shape_whole (ranks cpr gpr lfs mem : Nat) (hg : gpr % 16 = 0) :
    (shape ranks cpr gpr lfs mem).ranksPerSlot * gpr ≤ (shape ranks cpr gpr lfs mem).gpusPerSlot * 16
    ∧ (shape ranks cpr gpr lfs mem).reqSlots * (shape ranks cpr gpr lfs mem).ranksPerSlot = ranks := by
  simp only [shape, hg, ne_eq, not_true_eq_false, if_false, Nat.one_mul, Nat.mul_one, and_true]
  exact Nat.le_of_eq (Nat.div_mul_cancel (Nat.dvd_of_mod_eq_zero hg)).symm

/-- fractional GPUs, `gcd ranks gpus` sets: the bound `ranks * gpr ≤ gpus * 16` of the whole request, divided by the gcd -/
theorem shape_frac (ranks cpr gpr lfs mem : Nat) (hr : 0 < ranks) (hg : gpr % 16 ≠ 0) :
    (shape ranks cpr gpr lfs mem).ranksPerSlot * gpr ≤ (shape ranks cpr gpr lfs mem).gpusPerSlot * 16
    ∧ (shape ranks cpr gpr lfs mem).reqSlots * (shape ranks cpr gpr lfs mem).ranksPerSlot = ranks := by
  simp only [shape, hg, ne_eq, not_false_eq_true, if_true]
  generalize hG : ceil16 (ranks * gpr) = G
  have hge : ranks * gpr ≤ G * 16 := hG ▸ ceil16_ge _
  have hd : 0 < Nat.gcd ranks G := Nat.gcd_pos_of_pos_left _ hr
  have h1 : Nat.gcd ranks G * (ranks / Nat.gcd ranks G) = ranks := Nat.mul_div_cancel' (Nat.gcd_dvd_left _ _)
  have h2 : Nat.gcd ranks G * (G / Nat.gcd ranks G) = G := Nat.mul_div_cancel' (Nat.gcd_dvd_right _ _)
  generalize Nat.gcd ranks G = d at *
  generalize ranks / d = a at *
  generalize G / d = b at *
  refine ⟨?_, h1⟩
  subst h1 h2
  have : d * (a * gpr) ≤ d * (b * 16) := by
    calc d * (a * gpr) = d * a * gpr := by rw [Nat.mul_assoc]
      _ ≤ d * b * 16 := hge
      _ = d * (b * 16) := by rw [Nat.mul_assoc]
  exact Nat.le_of_mul_le_mul_left this hd

inductive Res where
  | core
  | gpu

def Res.occ : Res → NodeSt → List Occ
  | .core => fun n => n.cores
  | .gpu  => fun n => n.gpus

def Res.ids : Res → RSlot → List Nat
  | .core => fun s => s.cores.flatten
  | .gpu  => fun s => s.gpus

/-- `idsOf .core`, `idsOf .gpu` unfold to `coresOf`, `gpusOf`, with which `C01_jsrun_find` is stated -/
def idsOf (q : Res) (sl : List RSlot) : List Nat := sl.flatMap q.ids

def coresOf (sl : List RSlot) : List Nat := sl.flatMap (fun s => s.cores.flatten)
def gpusOf (sl : List RSlot) : List Nat := sl.flatMap (fun s => s.gpus)

def slotsOn (i : Nat) (sl : List RSlot) : List RSlot := sl.filter (fun s => s.node = i)

theorem slotsOn_cons (i : Nat) (s : RSlot) (sl : List RSlot) :
    slotsOn i (s :: sl) = if s.node = i then s :: slotsOn i sl else slotsOn i sl := by
  by_cases h : s.node = i
  · rw [if_pos h]
    exact List.filter_cons_of_pos (decide_eq_true h)
  · rw [if_neg h]
    exact List.filter_cons_of_neg fun hd => h (of_decide_eq_true hd)

theorem slotsOn_append (i : Nat) (a b : List RSlot) : slotsOn i (a ++ b) = slotsOn i a ++ slotsOn i b :=
  List.filter_append ..

theorem slotsOn_eq_self {i : Nat} {sl : List RSlot} (h : ∀ s ∈ sl, s.node = i) : slotsOn i sl = sl :=
  List.filter_eq_self.mpr fun s hs => decide_eq_true (h s hs)

theorem slotsOn_eq_nil {i : Nat} {sl : List RSlot} (h : ∀ s ∈ sl, s.node ≠ i) : slotsOn i sl = [] :=
  List.filter_eq_nil_iff.mpr fun s hs hd => h s hs (of_decide_eq_true hd)

theorem mem_slotsOn_self {s : RSlot} {sl : List RSlot} (hs : s ∈ sl) : s ∈ slotsOn s.node sl :=
  List.mem_filter.mpr ⟨hs, decide_eq_true rfl⟩

structure FitsNode (n : NodeSt) (p : List RSlot) : Prop where
  nodup : ∀ q, (idsOf q p).Nodup
  free  : ∀ q, ∀ c ∈ idsOf q p, (q.occ n)[c]? = some .free
  lfs   : (p.map (·.lfs)).sum ≤ n.lfs.toNat
  mem   : (p.map (·.mem)).sum ≤ n.mem.toNat

theorem fitsNode_nil (n : NodeSt) : FitsNode n [] :=
  ⟨fun _ => .nil, fun _ => List.forall_mem_nil _, Nat.zero_le _, Nat.zero_le _⟩

/-! ### `_find_resources` -/

theorem countFree_cons (o : Occ) (os : List Occ) :
    countFree (o :: os) = countFree os + (if o = .free then 1 else 0) := by
  unfold countFree
  by_cases h : o = .free
  · simp [h]
  · simp [h]

/-- in the form `digOut` calls it (`l.drop ci`, counting from `ci`), so that every index is a position in `l` -/
theorem takeFree_spec (l : List Occ) (ci need : Nat) :
    match takeFree (l.drop ci) ci need with
    | none => countFree (l.drop ci) < need
    | some (r, e) => ci ≤ e ∧ r.Pairwise (· < ·) ∧ (∀ i ∈ r, ci ≤ i ∧ i < e ∧ l[i]? = some .free) ∧
        countFree (l.drop e) + need = countFree (l.drop ci) := by
  generalize hl : l.drop ci = l'
  -- `hrec ▸` rewrites the scrutinee of the goal's `match` with the equation of the branch, so that it reduces
  fun_induction takeFree l' ci need with
  | case1 t idx => exact ⟨Nat.le_refl _, .nil, List.forall_mem_nil _, congrArg countFree hl⟩
  | case2 idx n => exact Nat.succ_pos n
  | case3 os idx need r e hrec ih =>
    obtain ⟨hfree, hos⟩ := ListAux.drop_eq_cons hl
    obtain ⟨h1, h2, h3, h4⟩ := hrec ▸ ih hos
    refine ⟨Nat.le_of_succ_le h1, List.pairwise_cons.mpr ⟨fun i hi => (h3 i hi).1, h2⟩, ?_, ?_⟩
    · intro i hi
      rcases List.mem_cons.mp hi with rfl | hi
      · exact ⟨Nat.le_refl _, h1, hfree⟩
      · exact ⟨Nat.le_of_succ_le (h3 i hi).1, (h3 i hi).2⟩
    · rw [countFree_cons, if_pos rfl, ← h4]
      rfl
  | case4 os idx need hrec ih =>
    have := hrec ▸ ih (ListAux.drop_eq_cons hl).2
    show countFree (Occ.free :: os) < need + 1
    rw [countFree_cons, if_pos rfl]
    exact Nat.succ_lt_succ this
  | case5 o os idx need ho ih =>
    obtain ⟨_, hos⟩ := ListAux.drop_eq_cons hl
    have := ih hos
    rw [countFree_cons, if_neg ho, Nat.add_zero]
    generalize takeFree os (idx + 1) (need + 1) = res at this ⊢
    rcases res with _ | ⟨r, e⟩
    · exact this
    · obtain ⟨h1, h2, h3, h4⟩ := this
      exact ⟨Nat.le_of_succ_le h1, h2, fun i hi => ⟨Nat.le_of_succ_le (h3 i hi).1, (h3 i hi).2⟩, h4⟩

theorem chunks_prefix (fuel k : Nat) (l : List Nat) : (chunks fuel k l).flatten <+: l := by
  fun_induction chunks fuel k l with
  | case1 | case2 | case3 => exact List.nil_prefix
  | case4 l fuel hl hk ih =>
    have := (List.prefix_append_right_inj (l.take k)).mpr ih
    rwa [List.take_append_drop] at this

def FreeRun (l : List Occ) (lo : Nat) (xs : List Nat) : Prop :=
  xs.Pairwise (· < ·) ∧ ∀ i ∈ xs, lo ≤ i ∧ l[i]? = some .free

theorem freeRun_block {l : List Occ} {lo e : Nat} {r r' b : List Nat} (hle : lo ≤ e) (hr : r.Pairwise (· < ·))
    (hm : ∀ i ∈ r, lo ≤ i ∧ i < e ∧ l[i]? = some .free) (hsub : r'.Sublist r) (hb : FreeRun l e b) :
    FreeRun l lo (r' ++ b) := by
  refine ⟨List.pairwise_append.mpr ⟨hr.sublist hsub, hb.1, ?_⟩, ?_⟩
  · intro x hx y hy
    exact Nat.lt_of_lt_of_le (hm x (hsub.subset hx)).2.1 (hb.2 y hy).1
  · intro i hi
    rcases List.mem_append.mp hi with hi | hi
    · exact ⟨(hm i (hsub.subset hi)).1, (hm i (hsub.subset hi)).2.2⟩
    · exact ⟨Nat.le_trans hle (hb.2 i hi).1, (hb.2 i hi).2⟩

/-- every `takeFree` starts where the last one ended: the cores (GPUs) of all sets form one ascending run -/
theorem digOut_spec (n : NodeSt) (rps cps gps lfs mem k ci gi : Nat) :
    match digOut n rps cps gps lfs mem k ci gi with
    | none => countFree (n.cores.drop ci) < k * cps ∨ countFree (n.gpus.drop gi) < k * gps
    | some sl => sl.length = k ∧ (∀ s ∈ sl, s.node = n.index ∧ s.lfs = lfs ∧ s.mem = mem) ∧
        FreeRun n.cores ci (idsOf .core sl) ∧ FreeRun n.gpus gi (idsOf .gpu sl) := by
  fun_induction digOut n rps cps gps lfs mem k ci gi with
  | case1 ci gi => exact ⟨rfl, List.forall_mem_nil _, ⟨.nil, List.forall_mem_nil _⟩, ⟨.nil, List.forall_mem_nil _⟩⟩
  | case2 k ci gi hc =>
    have := hc ▸ takeFree_spec n.cores ci cps
    exact .inl (Nat.lt_of_lt_of_le this (Nat.le_mul_of_pos_left _ (Nat.succ_pos k)))
  | case3 k ci gi cs ci' hc hg =>
    have := hg ▸ takeFree_spec n.gpus gi gps
    exact .inr (Nat.lt_of_lt_of_le this (Nat.le_mul_of_pos_left _ (Nat.succ_pos k)))
  | case4 k ci gi cs ci' hc gs gi' hg hrest ih =>
    obtain ⟨_, _, _, hc⟩ := hc ▸ takeFree_spec n.cores ci cps
    obtain ⟨_, _, _, hg⟩ := hg ▸ takeFree_spec n.gpus gi gps
    rw [hrest] at ih
    simp only [Nat.succ_mul]
    rcases ih with ih | ih
    · exact .inl (hc ▸ Nat.add_lt_add_right ih cps)
    · exact .inr (hg ▸ Nat.add_lt_add_right ih gps)
  | case5 k ci gi cs ci' hc gs gi' hg rest hrest ih =>
    obtain ⟨c1, c2, c3, _⟩ := hc ▸ takeFree_spec n.cores ci cps
    obtain ⟨g1, g2, g3, _⟩ := hg ▸ takeFree_spec n.gpus gi gps
    obtain ⟨r1, r2, r3, r4⟩ := hrest ▸ ih
    refine ⟨congrArg (· + 1) r1, ?_, ?_, ?_⟩
    · intro s hs
      rcases List.mem_cons.mp hs with rfl | hs
      · exact ⟨rfl, rfl, rfl⟩
      · exact r2 s hs
    · exact freeRun_block c1 c2 c3 (chunks_prefix cs.length (cps / rps) cs).sublist r3
    · exact freeRun_block g1 g2 g3 (List.Sublist.refl gs) r4

/-- a line of `servable` brings the number of sets within its own resource `x` ... -/
theorem cap_mul_le (a x d : Nat) : (if d ≠ 0 then min a (x / d) else a) * d ≤ x := by
  split
  · exact Nat.le_trans (Nat.mul_le_mul_right _ (Nat.min_le_right _ _)) (Nat.div_mul_le_self x d)
  · next h => rw [Decidable.not_not.mp h]; exact Nat.zero_le _

/-- ... and only lowers it: the bounds of the lines before it stay -/
theorem cap_mul_le_of_le {a e y : Nat} (x d : Nat) (h : a * e ≤ y) : (if d ≠ 0 then min a (x / d) else a) * e ≤ y := by
  refine Nat.le_trans (Nat.mul_le_mul_right _ ?_) h
  split
  · exact Nat.min_le_left _ _
  · exact Nat.le_refl _

theorem servable_mul_le (n : NodeSt) (cps gps lfs mem : Nat) :
    servable n cps gps lfs mem * cps ≤ countFree n.cores ∧ servable n cps gps lfs mem * gps ≤ countFree n.gpus ∧
    servable n cps gps lfs mem * lfs ≤ n.lfs.toNat ∧ servable n cps gps lfs mem * mem ≤ n.mem.toNat := by
  have hc : (if cps ≠ 0 then countFree n.cores / cps else 1) * cps ≤ countFree n.cores := by
    split
    · exact Nat.div_mul_le_self _ _
    · next h => rw [Decidable.not_not.mp h]; exact Nat.zero_le _
  simp only [servable]
  exact ⟨cap_mul_le_of_le _ _ (cap_mul_le_of_le _ _ (cap_mul_le_of_le _ _ hc)),
    cap_mul_le_of_le _ _ (cap_mul_le_of_le _ _ (cap_mul_le _ _ _)),
    cap_mul_le_of_le _ _ (cap_mul_le _ _ _),
    cap_mul_le _ _ _⟩

/-- `_find_resources` never raises: no more sets are dug out than `servable` says, so picking free cores and GPUs does
    not run off the node -/
theorem findJ_spec (n : NodeSt) (nSlots rps cps gps lfs mem : Nat) (part : Bool) :
    match findJ n nSlots rps cps gps lfs mem part with
    | .error _ => False
    | .ok none => True
    | .ok (some sl) =>
        sl.length ≤ nSlots ∧ (∀ s ∈ sl, s.node = n.index ∧ s.lfs = lfs ∧ s.mem = mem) ∧ FitsNode n sl := by
  obtain ⟨hc, hg, hl, hm⟩ := servable_mul_le n cps gps lfs mem
  unfold findJ
  generalize servable n cps gps lfs mem = a at *
  have hk : min a nSlots ≤ a := Nat.min_le_left _ _
  have hd := digOut_spec n rps cps gps lfs mem (min a nSlots) 0 0
  dsimp only
  by_cases h0 : a = 0
  · rw [if_pos h0]; trivial
  · by_cases h1 : (!part && decide (a < nSlots)) = true
    · rw [if_neg h0, if_pos h1]; trivial
    · rw [if_neg h0, if_neg h1]
      generalize digOut n rps cps gps lfs mem (min a nSlots) 0 0 = res at hd ⊢
      rcases res with _ | sl
      · rcases hd with hd | hd
        · exact absurd hd (Nat.not_lt.mpr (Nat.le_trans (Nat.mul_le_mul_right cps hk) hc))
        · exact absurd hd (Nat.not_lt.mpr (Nat.le_trans (Nat.mul_le_mul_right gps hk) hg))
      · obtain ⟨d1, d2, d3, d4⟩ := hd
        have hlen : sl.length ≤ a := d1 ▸ hk
        have hrun : ∀ q : Res, FreeRun (q.occ n) 0 (idsOf q sl)
          | .core => d3
          | .gpu => d4
        refine ⟨d1 ▸ Nat.min_le_right _ _, d2, ?_⟩
        refine { nodup := fun q => (hrun q).1.imp Nat.ne_of_lt, free := fun q c hc => ((hrun q).2 c hc).2, lfs := ?_, mem := ?_ }
        · rw [sum_map_const _ lfs sl (fun s hs => (d2 s hs).2.1)]
          exact Nat.le_trans (Nat.mul_le_mul_right _ hlen) hl
        · rw [sum_map_const _ mem sl (fun s hs => (d2 s hs).2.2)]
          exact Nat.le_trans (Nat.mul_le_mul_right _ hlen) hm

/-! ### `_change_slot_states` -/

theorem setAll_get (l : List Occ) (idx : List Nat) (v : Occ) (c : Nat) :
    (setAll l idx v)[c]? = if c ∈ idx then (l[c]?).map (fun _ => v) else l[c]? :=
  ListAux.getElem?_foldl_set idx l v c

theorem markSlot_index (b : Bool) (n : NodeSt) (s : RSlot) : (markSlot b n s).index = n.index :=
  (apply_ite NodeSt.index _ n _).trans (ite_self _)

theorem markSlot_of_ne (b : Bool) (n : NodeSt) (s : RSlot) (h : n.index ≠ s.node) : markSlot b n s = n :=
  if_pos h

theorem markSlot_of_eq (b : Bool) (n : NodeSt) (s : RSlot) (h : n.index = s.node) :
    markSlot b n s =
      { n with cores := setAll n.cores s.cores.flatten (if b then .busy else .free),
               gpus  := setAll n.gpus s.gpus (if b then .busy else .free),
               lfs   := if b then n.lfs - s.lfs else n.lfs + s.lfs,
               mem   := if b then n.mem - s.mem else n.mem + s.mem } :=
  if_neg (fun hne => hne h)

def markAll (b : Bool) (n : NodeSt) (sl : List RSlot) : NodeSt := sl.foldl (markSlot b) n

theorem markAll_eq (b : Bool) (n : NodeSt) (sl : List RSlot) :
    markAll b n sl =
      { n with cores := setAll n.cores (idsOf .core (slotsOn n.index sl)) (if b then .busy else .free),
               gpus  := setAll n.gpus (idsOf .gpu (slotsOn n.index sl)) (if b then .busy else .free),
               lfs   := if b then n.lfs - (((slotsOn n.index sl).map (·.lfs)).sum : Nat)
                        else n.lfs + (((slotsOn n.index sl).map (·.lfs)).sum : Nat),
               mem   := if b then n.mem - (((slotsOn n.index sl).map (·.mem)).sum : Nat)
                        else n.mem + (((slotsOn n.index sl).map (·.mem)).sum : Nat) } := by
  induction sl generalizing n with
  | nil => cases b <;> simp [markAll, slotsOn, idsOf, setAll]
  | cons s rest ih =>
    have hstep : markAll b n (s :: rest) = markAll b (markSlot b n s) rest := rfl
    rw [hstep, ih, markSlot_index]
    by_cases hn : n.index = s.node
    · have hadd : ∀ (x : Int) (a c : Nat),
          (if b then (if b then x - a else x + a) - c else (if b then x - a else x + a) + c) =
            if b then x - (a + c : Nat) else x + (a + c : Nat) := by
        intro x a c
        cases b
        · simp only [Bool.false_eq_true, if_false, Int.natCast_add, Int.add_assoc]
        · simp only [if_true, Int.natCast_add, Int.sub_sub]
      rw [slotsOn_cons, if_pos hn.symm, markSlot_of_eq b n s hn]
      simp only [idsOf, List.flatMap_cons, setAll, List.foldl_append, List.map_cons, List.sum_cons, hadd]
      rfl
    · rw [slotsOn_cons, if_neg (fun h : s.node = n.index => hn h.symm), markSlot_of_ne b n s hn]

theorem markAll_occ (q : Res) (b : Bool) (n : NodeSt) (sl : List RSlot) :
    q.occ (markAll b n sl) = setAll (q.occ n) (idsOf q (slotsOn n.index sl)) (if b then .busy else .free) := by
  rw [markAll_eq]; cases q <;> rfl

theorem markAll_index (b : Bool) (n : NodeSt) (sl : List RSlot) : (markAll b n sl).index = n.index := by
  rw [markAll_eq]

def nodeAt (ns : List NodeSt) (i : Nat) : Option NodeSt := ns.find? (fun n => n.index = i)

theorem nodeAt_cons (n : NodeSt) (ns : List NodeSt) (i : Nat) :
    nodeAt (n :: ns) i = if n.index = i then some n else nodeAt ns i := by
  unfold nodeAt
  rw [List.find?_cons]
  by_cases h : n.index = i <;> simp [h]

theorem nodeAt_index {ns : List NodeSt} {i : Nat} {n : NodeSt} (h : nodeAt ns i = some n) : n.index = i := by
  have := List.find?_some h; simpa using this

theorem nodeAt_mem {ns : List NodeSt} {i : Nat} {n : NodeSt} (h : nodeAt ns i = some n) : n ∈ ns :=
  List.mem_of_find?_eq_some h

theorem nodeAt_of_index {ns : List NodeSt} {i : Nat} (h : i ∈ ns.map (·.index)) : ∃ n, nodeAt ns i = some n := by
  obtain ⟨n, hn, rfl⟩ := List.mem_map.mp h
  exact Option.isSome_iff_exists.mp (List.find?_isSome.mpr ⟨n, hn, decide_eq_true rfl⟩)

theorem nodeAt_of_mem {ns : List NodeSt} {n : NodeSt} (hnd : (ns.map (·.index)).Nodup) (hn : n ∈ ns) :
    nodeAt ns n.index = some n := by
  obtain ⟨m, hm⟩ := nodeAt_of_index (List.mem_map_of_mem (f := (·.index)) hn)
  rw [hm, ListAux.eq_of_nodup_map hnd (nodeAt_mem hm) hn (nodeAt_index hm)]

theorem changeOne_spec (b : Bool) (ns : List NodeSt) (s : RSlot) :
    match changeOne b ns s with
    | none => s.node ∉ ns.map (·.index)
    | some ns' => ns'.map (·.index) = ns.map (·.index) ∧
        ∀ i, nodeAt ns' i = (nodeAt ns i).map (fun n => markSlot b n s) := by
  fun_induction changeOne b ns s with
  | case1 s => exact List.not_mem_nil
  | case2 n ns s hn =>
    refine ⟨by rw [List.map_cons, List.map_cons, markSlot_index], fun i => ?_⟩
    rw [nodeAt_cons, nodeAt_cons, markSlot_index]
    by_cases hi : n.index = i
    · rw [if_pos hi, if_pos hi]
      rfl
    · rw [if_neg hi, if_neg hi]
      cases hm : nodeAt ns i with
      | none => rfl
      | some m => exact congrArg some (markSlot_of_ne b m s (nodeAt_index hm ▸ fun h => hi (hn.trans h.symm))).symm
  | case3 n ns s hn r hr ih =>
    rw [hr] at ih
    refine ⟨by rw [List.map_cons, List.map_cons, ih.1], fun i => ?_⟩
    rw [nodeAt_cons, nodeAt_cons]
    by_cases hi : n.index = i
    · rw [if_pos hi, if_pos hi, Option.map_some, markSlot_of_ne b n s hn]
    · rw [if_neg hi, if_neg hi]
      exact ih.2 i
  | case4 n ns s hn hr ih =>
    rw [hr] at ih
    intro hm
    rcases List.mem_cons.mp hm with h | h
    · exact hn h.symm
    · exact ih h

theorem changeAll_cons (b : Bool) (ns : List NodeSt) (s : RSlot) (sl : List RSlot) :
    changeAll b ns (s :: sl) = match changeOne b ns s with | some r => changeAll b r sl | none => none := by
  simp only [changeAll, List.foldl_cons]
  cases changeOne b ns s with
  | some r => rfl
  | none =>
    -- a fold that has failed stays failed
    exact List.foldlRecOn (motive := (· = none)) sl _ rfl fun _ h _ _ => by rw [h]

theorem changeAll_spec (b : Bool) (ns : List NodeSt) (sl : List RSlot) :
    match changeAll b ns sl with
    | none => ∃ s ∈ sl, s.node ∉ ns.map (·.index)
    | some ns' => ns'.map (·.index) = ns.map (·.index) ∧
        ∀ i, nodeAt ns' i = (nodeAt ns i).map (fun n => markAll b n sl) := by
  induction sl generalizing ns with
  | nil => exact ⟨rfl, fun i => Option.map_id'.symm⟩
  | cons s rest ih =>
    have h1 := changeOne_spec b ns s
    rw [changeAll_cons]
    generalize changeOne b ns s = res at h1 ⊢
    rcases res with _ | r
    · exact ⟨s, List.mem_cons_self, h1⟩
    · have h2 := ih r
      dsimp only
      generalize changeAll b r rest = res' at h2 ⊢
      rcases res' with _ | ns'
      · obtain ⟨x, hx, hxn⟩ := h2
        exact ⟨x, List.mem_cons_of_mem _ hx, h1.1 ▸ hxn⟩
      · refine ⟨h2.1.trans h1.1, fun i => ?_⟩
        rw [h2.2 i, h1.2 i, Option.map_map]
        rfl

theorem changeAll_isSome (b : Bool) (ns : List NodeSt) (sl : List RSlot) (h : ∀ s ∈ sl, s.node ∈ ns.map (·.index)) :
    ∃ ns', changeAll b ns sl = some ns' := by
  have hspec := changeAll_spec b ns sl
  generalize changeAll b ns sl = res at hspec ⊢
  rcases res with _ | ns'
  · obtain ⟨s, hs, hn⟩ := hspec
    exact absurd (h s hs) hn
  · exact ⟨ns', rfl⟩

/-! ### `schedule_task` -/

structure FitsMap (all : List NodeSt) (sl : List RSlot) : Prop where
  onMap : ∀ s ∈ sl, s.node ∈ all.map (·.index)
  fits  : ∀ n ∈ all, FitsNode n (slotsOn n.index sl)

theorem fitsMap_nil (all : List NodeSt) : FitsMap all [] :=
  ⟨List.forall_mem_nil _, fun n _ => fitsNode_nil n⟩

theorem fitsMap_append {all : List NodeSt} {a sl : List RSlot} {n : NodeSt} (hnd : (all.map (·.index)).Nodup)
    (ha : FitsMap all a) (hn : n ∈ all) (hnone : ∀ s ∈ a, s.node ≠ n.index) (hon : ∀ s ∈ sl, s.node = n.index)
    (hfit : FitsNode n sl) : FitsMap all (a ++ sl) := by
  refine ⟨?_, ?_⟩
  · intro s hs
    rcases List.mem_append.mp hs with hs | hs
    · exact ha.onMap s hs
    · exact hon s hs ▸ List.mem_map_of_mem hn
  · intro m hm
    rw [slotsOn_append]
    by_cases hi : m.index = n.index
    · obtain rfl : m = n := ListAux.eq_of_nodup_map hnd hm hn hi
      rw [slotsOn_eq_nil hnone, slotsOn_eq_self hon]
      exact hfit
    · rw [slotsOn_eq_nil fun s hs h => hi (h.symm.trans (hon s hs)), List.append_nil]
      exact ha.fits m hm

theorem walkStep_alc (sc mpi : Bool) (s : Shape) (spn : Nat) (w w' : Walk) (n : NodeSt)
    (h : walkStep sc mpi s spn w n = .ok w') :
    w'.alc = w.alc ∨ w'.alc = [] ∨
      ∃ sl, w'.alc = w.alc ++ sl ∧ (∀ x ∈ sl, x.node = n.index) ∧ FitsNode n sl := by
  unfold walkStep at h
  rcases eq_of_ite_eq h with ⟨-, h⟩ | ⟨-, h⟩
  · cases h; exact .inl rfl
  extract_lets isLast part at h
  have hf := findJ_spec n (min w.rem spn) s.ranksPerSlot s.coresPerSlot s.gpusPerSlot s.lfsPerSlot s.memPerSlot part
  generalize findJ n _ _ _ _ _ _ _ = res at h hf
  rcases res with e | _ | _ | ⟨x, xs⟩
  · cases h
  · rcases eq_of_ite_eq h with ⟨-, h⟩ | ⟨-, h⟩ <;> cases h
    · exact .inl rfl
    · exact .inr (.inl rfl)
  · rcases eq_of_ite_eq h with ⟨-, h⟩ | ⟨-, h⟩ <;> cases h
    · exact .inl rfl
    · exact .inr (.inl rfl)
  · cases h
    exact .inr (.inr ⟨x :: xs, rfl, fun y hy => (hf.2.1 y hy).1, hf.2.2⟩)

/-- what the walk has collected sits on nodes it has left behind (`hw`), so a node only adds to a placement that has nothing
    on it yet -/
theorem walkGo_fitsMap {all : List NodeSt} (hall : (all.map (·.index)).Nodup) {sc mpi : Bool} {s : Shape} {spn : Nat}
    {ns : List NodeSt} {w w' : Walk} {v v' : Nat} (hsub : ∀ n ∈ ns, n ∈ all) (hnd : (ns.map (·.index)).Nodup)
    (ha : FitsMap all w.alc) (hw : ∀ x ∈ w.alc, x.node ∉ ns.map (·.index))
    (h : walkGo sc mpi s spn ns w v = .ok (w', v')) : FitsMap all w'.alc := by
  induction ns generalizing w v with
  | nil => cases h; exact ha
  | cons n rest ih =>
    rw [List.map_cons, List.nodup_cons] at hnd
    unfold walkGo at h
    cases hw1 : walkStep sc mpi s spn w n with
    | error e => rw [hw1] at h; cases h
    | ok w1 =>
      rw [hw1] at h
      have step : FitsMap all w1.alc ∧ ∀ x ∈ w1.alc, x.node ∉ rest.map (·.index) := by
        have hw' : ∀ x ∈ w.alc, x.node ∉ rest.map (·.index) :=
          fun x hx hm => hw x hx (List.mem_cons_of_mem _ hm)
        rcases walkStep_alc sc mpi s spn w w1 n hw1 with e | e | ⟨sl, e, hon, hfit⟩
        · rw [e]; exact ⟨ha, hw'⟩
        · rw [e]; exact ⟨fitsMap_nil all, List.forall_mem_nil _⟩
        · rw [e]
          refine ⟨fitsMap_append hall ha (hsub n List.mem_cons_self) (fun x hx hxn => hw x hx (hxn ▸ List.mem_cons_self))
            hon hfit, ?_⟩
          intro x hx
          rcases List.mem_append.mp hx with hx | hx
          · exact hw' x hx
          · exact hon x hx ▸ hnd.1
      rcases eq_of_ite_eq h with ⟨-, h⟩ | ⟨-, h⟩
      · cases h; exact step.1
      · exact ih (fun x hx => hsub x (List.mem_cons_of_mem _ hx)) hnd.2 step.1 step.2 h

theorem rotate_perm (l : List NodeSt) (k : Nat) : (rotate l k).Perm l :=
  List.perm_append_comm.trans (.of_eq (List.take_append_drop k l))

theorem schedule_fitsMap (cfg : JCfg) (nodes : List NodeSt) (off off' : Nat) (r : JReq) (sl : List RSlot)
    (hnd : (nodes.map (·.index)).Nodup) (h : schedule cfg nodes off r = (.placed sl, off')) : FitsMap nodes sl := by
  unfold schedule at h
  extract_lets s spn mpi at h
  rcases eq_of_ite_eq h with ⟨-, h⟩ | ⟨-, h⟩
  · cases h
  rcases eq_of_ite_eq h with ⟨-, h⟩ | ⟨-, h⟩
  · cases h
  cases hw : walkGo cfg.scattered mpi s spn (rotate nodes off) { rem := s.reqSlots } 0 with
  | error e => rw [hw] at h; cases h
  | ok p =>
    obtain ⟨w, visited⟩ := p
    rw [hw] at h
    rcases eq_of_ite_eq h with ⟨-, h⟩ | ⟨-, h⟩
    · cases h
    · cases h
      exact walkGo_fitsMap hnd (fun n hn => (rotate_perm nodes off).mem_iff.mp hn)
        (((rotate_perm nodes off).map _).nodup_iff.mpr hnd) (fitsMap_nil _) (List.forall_mem_nil _) hw

def heldSlots (st : JState) : List RSlot := st.held.flatMap (·.2)

theorem occ_unique {l : List Occ} {c : Nat} {a b : Occ} (ha : l[c]? = some a) (hb : l[c]? = some b) : a = b :=
  Option.some.inj (ha.symm.trans hb)

/-- one node: `n0` when the pilot started, `n` now, `h` the sets that tasks hold on it -/
structure NodeInv (n0 n : NodeSt) (h : List RSlot) : Prop where
  nodup : ∀ q, (idsOf q h).Nodup
  busy  : ∀ q, ∀ c ∈ idsOf q h, (q.occ n)[c]? = some .busy
  down  : ∀ (q : Res) (c : Nat), (q.occ n0)[c]? = some .down → (q.occ n)[c]? = some .down
  lfs   : 0 ≤ n0.lfs → 0 ≤ n.lfs
  mem   : 0 ≤ n0.mem → 0 ≤ n.mem

theorem nodeInv_init (n : NodeSt) : NodeInv n n [] :=
  ⟨fun _ => .nil, fun _ => List.forall_mem_nil _, fun _ _ h => h, id, id⟩

theorem nodeInv_alloc {n0 n : NodeSt} {h : List RSlot} (hi : NodeInv n0 n h) (sl : List RSlot)
    (hfit : FitsNode n (slotsOn n.index sl)) : NodeInv n0 (markAll true n sl) (h ++ slotsOn n.index sl) := by
  refine ⟨?_, ?_, ?_, ?_, ?_⟩
  · intro q
    rw [idsOf, List.flatMap_append]
    refine List.nodup_append.mpr ⟨hi.nodup q, hfit.nodup q, ?_⟩
    rintro c hc _ hc' rfl
    exact Occ.noConfusion (occ_unique (hi.busy q c hc) (hfit.free q c hc'))
  · intro q c hc
    rw [markAll_occ, setAll_get]
    by_cases hnew : c ∈ idsOf q (slotsOn n.index sl)
    · rw [if_pos hnew, hfit.free q c hnew]
      rfl
    · rw [if_neg hnew]
      rw [idsOf, List.flatMap_append] at hc
      exact hi.busy q c ((List.mem_append.mp hc).resolve_right hnew)
  · intro q c hd
    rw [markAll_occ, setAll_get, if_neg]
    · exact hi.down q c hd
    · intro hc
      exact Occ.noConfusion (occ_unique (hi.down q c hd) (hfit.free q c hc))
  · intro h0
    rw [markAll_eq]
    exact Int.sub_nonneg_of_le ((Int.le_toNat (hi.lfs h0)).mp hfit.lfs)
  · intro h0
    rw [markAll_eq]
    exact Int.sub_nonneg_of_le ((Int.le_toNat (hi.mem h0)).mp hfit.mem)

theorem nodeInv_release {n0 n : NodeSt} {h h' : List RSlot} (hi : NodeInv n0 n h) (sl : List RSlot)
    (hsub : ∀ q, (idsOf q h').Sublist (idsOf q h))
    (hin : ∀ q, ∀ c ∈ idsOf q (slotsOn n.index sl), c ∈ idsOf q h)
    (hdis : ∀ q, ∀ c ∈ idsOf q h', c ∉ idsOf q (slotsOn n.index sl)) :
    NodeInv n0 (markAll false n sl) h' := by
  refine ⟨fun q => (hi.nodup q).sublist (hsub q), ?_, ?_, ?_, ?_⟩
  · intro q c hc
    rw [markAll_occ, setAll_get, if_neg (hdis q c hc)]
    exact hi.busy q c ((hsub q).subset hc)
  · intro q c hd
    rw [markAll_occ, setAll_get, if_neg]
    · exact hi.down q c hd
    · intro hc
      exact Occ.noConfusion (occ_unique (hi.down q c hd) (hi.busy q c (hin q c hc)))
  · intro h0
    rw [markAll_eq]
    exact Int.add_nonneg (hi.lfs h0) (Int.natCast_nonneg _)
  · intro h0
    rw [markAll_eq]
    exact Int.add_nonneg (hi.mem h0) (Int.natCast_nonneg _)

theorem tryAlloc_state (cfg : JCfg) (st : JState) (r : JReq) :
    (∃ off act, (tryAlloc cfg st r).1 = { st with offset := off, active := act }) ∨
    ∃ sl off ns, schedule cfg st.nodes st.offset r = (.placed sl, off) ∧ changeAll true st.nodes sl = some ns ∧
      (tryAlloc cfg st r).1 =
        { nodes := ns, offset := off, active := st.active + 1, held := st.held ++ [(r.uid, sl)] } := by
  have hwait : ∀ (c : Prop) [Decidable c] (s : JState) (x y : JOut), (if c then (s, x) else (s, y)).1 = s :=
    fun c _ s x y => (apply_ite Prod.fst c (s, x) (s, y)).trans (ite_self s)
  unfold tryAlloc
  generalize schedule cfg st.nodes st.offset r = res
  rcases res with ⟨(_ | ⟨x, xs⟩) | _ | e, off⟩
  · exact .inl ⟨_, _, hwait ..⟩
  · dsimp only
    cases hns : changeAll true st.nodes (x :: xs) with
    | none => exact .inl ⟨_, _, rfl⟩
    | some ns => exact .inr ⟨_, _, ns, rfl, hns, rfl⟩
  · exact .inl ⟨_, _, hwait ..⟩
  · exact .inl ⟨_, _, rfl⟩

theorem release_state (st : JState) (uid : Nat) :
    (release st uid).1 = st ∨
    ∃ e ns, e ∈ st.held ∧ e.1 = uid ∧ changeAll false st.nodes e.2 = some ns ∧
      (release st uid).1 =
        { st with nodes := ns, active := st.active - 1, held := st.held.filter (fun x => x.1 ≠ uid) } := by
  unfold release
  cases he : st.held.find? (fun e => e.1 = uid) with
  | none => exact .inl rfl
  | some e =>
    dsimp only
    cases hns : changeAll false st.nodes e.2 with
    | none => exact .inl rfl
    | some ns =>
      exact .inr ⟨e, ns, List.mem_of_find?_eq_some he, by simpa using List.find?_some he, hns, rfl⟩

/-- the invariant of `_try_allocation` and `unschedule_task`; `init`: the nodes the pilot started with -/
structure JInv (init : List NodeSt) (st : JState) : Prop where
  idx   : (st.nodes.map (·.index)).Nodup
  onMap : ∀ s ∈ heldSlots st, s.node ∈ st.nodes.map (·.index)
  node  : ∀ i n, nodeAt st.nodes i = some n →
            ∃ n0, nodeAt init i = some n0 ∧ NodeInv n0 n (slotsOn i (heldSlots st))

theorem init_inv (nodes : List NodeSt) (h : (nodes.map (·.index)).Nodup) : JInv nodes { nodes := nodes } :=
  ⟨h, List.forall_mem_nil _, fun _ n hn => ⟨n, hn, nodeInv_init n⟩⟩

/-- allocation and release alike: it is enough that `NodeInv` carries over on every node (`hnode`) -/
theorem changeAll_inv {init : List NodeSt} {st : JState} {b : Bool} {sl : List RSlot} {ns : List NodeSt} {off act : Nat}
    {held' : List (Nat × List RSlot)} (h : JInv init st) (hns : changeAll b st.nodes sl = some ns)
    (hon : ∀ s ∈ held'.flatMap (·.2), s.node ∈ st.nodes.map (·.index))
    (hnode : ∀ n0 n, n ∈ st.nodes → NodeInv n0 n (slotsOn n.index (heldSlots st)) →
      NodeInv n0 (markAll b n sl) (slotsOn n.index (held'.flatMap (·.2)))) :
    JInv init { nodes := ns, offset := off, active := act, held := held' } := by
  obtain ⟨hidx, hat⟩ := hns ▸ changeAll_spec b st.nodes sl
  refine ⟨hidx ▸ h.idx, fun s hs => hidx ▸ hon s hs, fun i n' hn' => ?_⟩
  rw [hat, Option.map_eq_some_iff] at hn'
  obtain ⟨n, hn, rfl⟩ := hn'
  obtain ⟨n0, hn0, hinv⟩ := h.node i n hn
  cases nodeAt_index hn
  exact ⟨n0, hn0, hnode n0 n (nodeAt_mem hn) hinv⟩

theorem tryAlloc_inv {init : List NodeSt} (cfg : JCfg) (st : JState) (r : JReq) (h : JInv init st) :
    JInv init (tryAlloc cfg st r).1 := by
  rcases tryAlloc_state cfg st r with ⟨off, act, e⟩ | ⟨sl, off, ns, hs, hns, e⟩
  · rw [e]; exact ⟨h.idx, h.onMap, h.node⟩
  · rw [e]
    have hfits := schedule_fitsMap cfg st.nodes st.offset off r sl h.idx hs
    have hH : (st.held ++ [(r.uid, sl)]).flatMap (·.2) = heldSlots st ++ sl := by simp [heldSlots]
    refine changeAll_inv h hns (fun s hs => ?_) (fun n0 n hn hinv => ?_)
    · exact (List.mem_append.mp (hH ▸ hs)).elim (h.onMap s) (hfits.onMap s)
    · rw [hH, slotsOn_append]
      exact nodeInv_alloc hinv sl (hfits.fits n hn)

theorem release_inv {init : List NodeSt} (st : JState) (uid : Nat) (h : JInv init st) :
    JInv init (release st uid).1 := by
  rcases release_state st uid with e | ⟨e, ns, he, rfl, hns, hst⟩
  · rw [e]; exact h
  · rw [hst]
    have hids : ∀ (q : Res) (i : Nat) (held : List (Nat × List RSlot)),
        idsOf q (slotsOn i (held.flatMap (·.2))) = held.flatMap (fun x => idsOf q (slotsOn i x.2)) := by
      intro q i held
      simp only [idsOf, slotsOn, List.filter_flatMap, List.flatMap_assoc]
    refine changeAll_inv h hns (fun s hs => h.onMap s ((sublist_flatMap List.filter_sublist).subset hs))
      (fun n0 n _ hinv => nodeInv_release hinv e.2 ?_ ?_ ?_)
    · intro q
      simp only [heldSlots, hids]
      exact sublist_flatMap List.filter_sublist
    · intro q c hc
      simp only [heldSlots, hids]
      exact List.mem_flatMap.mpr ⟨e, he, hc⟩
    · intro q c hc
      simp only [hids] at hc
      have hnd := hinv.nodup q
      simp only [heldSlots, hids] at hnd
      exact flatMap_filter_disjoint hnd he (decide_eq_false (not_not_intro rfl)) hc

theorem jstep_inv {init : List NodeSt} (cfg : JCfg) (st : JState) (op : JOp) (h : JInv init st) :
    JInv init (jstep cfg st op).1 := by
  cases op with
  | alloc r => exact tryAlloc_inv cfg st r h
  | rel u => exact release_inv st u h

def jrun (cfg : JCfg) (st : JState) (ops : List JOp) : JState := ops.foldl (fun s o => (jstep cfg s o).1) st

theorem jrun_inv {init : List NodeSt} (cfg : JCfg) (st : JState) (ops : List JOp) (h : JInv init st) :
    JInv init (jrun cfg st ops) :=
  List.foldlRecOn (motive := fun s => JInv init s) ops _ h fun s hs o _ => jstep_inv cfg s o hs

/-! The invariant speaks node by node, the end results of C01 of the (node, core) and (node, GPU) pairs held over the whole map. -/

def keysBy (f : RSlot → List (Nat × Nat)) (held : List (Nat × List RSlot)) : List (Nat × Nat) :=
  (held.flatMap (·.2)).flatMap f

def coreF (s : RSlot) : List (Nat × Nat) := s.cores.flatten.map (fun c => (s.node, c))
def gpuF (s : RSlot) : List (Nat × Nat) := s.gpus.map (fun g => (s.node, g))

def coreKeys (sl : List RSlot) : List (Nat × Nat) := sl.flatMap (fun s => s.cores.flatten.map (fun c => (s.node, c)))
def gpuKeys (sl : List RSlot) : List (Nat × Nat) := sl.flatMap (fun s => s.gpus.map (fun g => (s.node, g)))

theorem coreKeys_eq (sl : List RSlot) : coreKeys sl = sl.flatMap coreF := rfl
theorem gpuKeys_eq (sl : List RSlot) : gpuKeys sl = sl.flatMap gpuF := rfl

/-- `keyF .core` unfolds to `coreF`, `keyF .gpu` to `gpuF` -/
def keyF (q : Res) (s : RSlot) : List (Nat × Nat) := (q.ids s).map (fun c => (s.node, c))

theorem nodup_keys (q : Res) (sl : List RSlot) (h : ∀ s ∈ sl, (idsOf q (slotsOn s.node sl)).Nodup) :
    (sl.flatMap (keyF q)).Nodup := by
  -- `h s` becomes: the ids of each set on the node of `s` are distinct, and two sets of `sl` on that node share none
  simp only [idsOf, slotsOn, List.Nodup, List.pairwise_flatMap, List.pairwise_filter] at h
  rw [List.Nodup, List.pairwise_flatMap]
  constructor
  · intro s hs
    have hids : (q.ids s).Pairwise (· ≠ ·) := (h s hs).1 s (mem_slotsOn_self hs)
    exact hids.map _ fun a b hab heq => hab (Prod.mk.inj heq).2
  · rw [List.pairwise_iff_forall_sublist]
    intro a b hab x hx y hy hxy
    obtain ⟨c, hc, hx⟩ := List.mem_map.mp hx
    obtain ⟨d, hd, hy⟩ := List.mem_map.mp hy
    obtain ⟨hn, rfl⟩ := Prod.mk.inj (hx.trans (hxy.trans hy.symm))
    have ha : a ∈ sl := hab.subset List.mem_cons_self
    have hshare := List.pairwise_iff_forall_sublist.mp (h a ha).2 hab (decide_eq_true rfl) (decide_eq_true hn.symm)
    exact hshare c hc c hd rfl

theorem held_on_node {init : List NodeSt} {st : JState} (h : JInv init st) (q : Res) {s : RSlot} (hs : s ∈ heldSlots st)
    {c : Nat} (hc : c ∈ q.ids s) :
    ∃ n n0, nodeAt st.nodes s.node = some n ∧ nodeAt init s.node = some n0 ∧
      NodeInv n0 n (slotsOn s.node (heldSlots st)) ∧ c ∈ idsOf q (slotsOn s.node (heldSlots st)) := by
  obtain ⟨n, hn⟩ := nodeAt_of_index (h.onMap s hs)
  obtain ⟨n0, hn0, hinv⟩ := h.node _ n hn
  exact ⟨n, n0, hn, hn0, hinv, List.mem_flatMap.mpr ⟨s, mem_slotsOn_self hs, hc⟩⟩

theorem mem_keysBy {q : Res} {held : List (Nat × List RSlot)} {k : Nat × Nat} (hk : k ∈ keysBy (keyF q) held) :
    ∃ s ∈ held.flatMap (·.2), ∃ c ∈ q.ids s, k = (s.node, c) := by
  obtain ⟨s, hs, hks⟩ := List.mem_flatMap.mp hk
  obtain ⟨c, hc, rfl⟩ := List.mem_map.mp hks
  exact ⟨s, hs, c, hc, rfl⟩

theorem inv_held_nodup {init : List NodeSt} {st : JState} (h : JInv init st) (q : Res) : (keysBy (keyF q) st.held).Nodup := by
  refine nodup_keys q (heldSlots st) fun s hs => ?_
  obtain ⟨n, hn⟩ := nodeAt_of_index (h.onMap s hs)
  obtain ⟨_, _, hinv⟩ := h.node _ n hn
  exact hinv.nodup q

theorem inv_held_busy {init : List NodeSt} {st : JState} (h : JInv init st) (q : Res) :
    ∀ k ∈ keysBy (keyF q) st.held, ∃ n, nodeAt st.nodes k.1 = some n ∧ (q.occ n)[k.2]? = some .busy := by
  intro k hk
  obtain ⟨s, hs, c, hc, rfl⟩ := mem_keysBy hk
  obtain ⟨n, _, hn, _, hinv, hmem⟩ := held_on_node h q hs hc
  exact ⟨n, hn, hinv.busy q c hmem⟩

theorem inv_held_not_down {init : List NodeSt} {st : JState} (h : JInv init st) (q : Res) :
    ∀ k ∈ keysBy (keyF q) st.held, ∀ n0, nodeAt init k.1 = some n0 → (q.occ n0)[k.2]? ≠ some .down := by
  intro k hk n0 hn0 hd
  obtain ⟨s, hs, c, hc, rfl⟩ := mem_keysBy hk
  obtain ⟨n, n0', _, hn0', hinv, hmem⟩ := held_on_node h q hs hc
  cases Option.some.inj (hn0'.symm.trans hn0)
  exact Occ.noConfusion (occ_unique (hinv.down q c hd) (hinv.busy q c hmem))

theorem inv_nonneg {init : List NodeSt} {st : JState} (h : JInv init st) (h0 : ∀ n ∈ init, 0 ≤ n.lfs ∧ 0 ≤ n.mem) :
    ∀ n ∈ st.nodes, 0 ≤ n.lfs ∧ 0 ≤ n.mem := by
  intro n hn
  obtain ⟨n0, hn0, hinv⟩ := h.node n.index n (nodeAt_of_mem h.idx hn)
  have := h0 n0 (nodeAt_mem hn0)
  exact ⟨hinv.lfs this.1, hinv.mem this.2⟩

end RPVerif.JsrunSched
