import RPVerif.Model.States
import RPVerif.Lemmas.ListAux

/-! What an application may see is a `Chain` of observable `Step`s; what the progress functions of tasks and pilots replay
    is one (`progress_chain`).  `foldOne t` is a batch as the task `t` sees it (`updateTasksAux_proj`). -/
namespace RPVerif.States

def St.WF (N : Nat) : St → Prop
  | .nf i => i < N
  | _     => True

instance (N : Nat) (s : St) : Decidable (s.WF N) := by
  cases s <;> simp [St.WF] <;> infer_instance

/-- one observable step of the state model: the next state in order, or
    FAILED / CANCELED from anywhere; never out of a final state -/
def Step (N : Nat) (a b : St) : Prop :=
  a.isFinal = false ∧ b.WF N ∧ (b.val N = a.val N + 1 ∨ b.isFC = true)

def Chain (N : Nat) : St → List St → Prop
  | _, []      => True
  | s, n :: ns => Step N s n ∧ Chain N n ns

def lastOf : St → List St → St
  | s, []      => s
  | _, n :: ns => lastOf n ns

theorem chain_append {N : Nat} {s : St} {xs ys : List St}
    (h1 : Chain N s xs) (h2 : Chain N (lastOf s xs) ys) : Chain N s (xs ++ ys) := by
  induction xs generalizing s with
  | nil => exact h2
  | cons x xs ih => exact ⟨h1.1, ih h1.2 h2⟩

theorem lastOf_append (s : St) (xs ys : List St) :
    lastOf s (xs ++ ys) = lastOf (lastOf s xs) ys := by
  induction xs generalizing s with
  | nil => rfl
  | cons x xs ih => exact ih x

theorem lastOf_snoc (s : St) (xs : List St) (a : St) : lastOf s (xs ++ [a]) = a := by
  rw [lastOf_append]; rfl

theorem val_le {N : Nat} {s : St} (h : s.WF N) : s.val N ≤ N := by
  cases s with
  | nf i => exact Nat.le_of_lt h
  | _ => exact Nat.le_refl N

theorem val_final {N : Nat} {s : St} (h : s.isFinal = true) : s.val N = N := by
  cases s with
  | nf i => cases h
  | _ => rfl

theorem val_le_of_final {N : Nat} {cur tgt : St} (ht : tgt.WF N) (h : cur.isFinal = true) : tgt.val N ≤ cur.val N := by
  rw [val_final h]
  exact val_le ht

theorem wf_of_final {N : Nat} {s : St} (h : s.isFinal = true) : s.WF N := by
  cases s with
  | nf i => cases h
  | _ => trivial

theorem final_of_isFC {s : St} (h : s.isFC = true) : s.isFinal = true := by
  cases s with
  | nf i => cases h
  | _ => rfl

theorem val_lt_of_nonfinal {N : Nat} {s : St} (hs : s.WF N) (hn : s.isFinal = false) : s.val N < N := by
  cases s with
  | nf i => exact hs
  | _ => cases hn

theorem nonfinal_of_val_lt {N : Nat} {s : St} (h : s.val N < N) : s.isFinal = false := by
  cases s with
  | nf i => rfl
  | _ => exact absurd h (Nat.lt_irrefl N)

theorem step_val_lt {N : Nat} {a b : St} (ha : a.WF N) (h : Step N a b) : a.val N < b.val N := by
  obtain ⟨hf, _, hv | hv⟩ := h
  · exact hv ▸ Nat.lt_succ_self _
  · rw [val_final (final_of_isFC hv)]
    exact val_lt_of_nonfinal ha hf

theorem chain_increasing {N : Nat} (s : St) (ns : List St) (hs : s.WF N) (h : Chain N s ns) :
    List.Pairwise (· < ·) ((s :: ns).map (St.val N)) := by
  induction ns generalizing s with
  | nil => simp
  | cons n ns ih =>
    have hlt := step_val_lt hs h.1
    have ih := ih n h.1.2.1 h.2
    rw [List.map_cons, List.pairwise_cons] at ih ⊢
    refine ⟨fun a ha => ?_, List.pairwise_cons.mpr ih⟩
    rcases List.mem_cons.mp ha with rfl | ha
    · exact hlt
    · exact Nat.lt_trans hlt (ih.1 a ha)

theorem chain_of_final {N : Nat} (s : St) (ns : List St) (hf : s.isFinal = true)
    (h : Chain N s ns) : ns = [] := by
  cases ns with
  | nil => rfl
  | cons n ns => have := h.1.1; simp [hf] at this

/-! ### `nfRange`, and the replayed states as a chain -/

theorem nfRange_eq_map (lo hi : Nat) : nfRange lo hi = (List.range' lo (hi - lo)).map St.nf := by
  induction hi with
  | zero => rw [Nat.zero_sub]; rfl
  | succ n ih =>
    unfold nfRange
    split
    · rename_i h
      rw [ih, Nat.succ_sub h, List.range'_concat, List.map_append, Nat.one_mul, Nat.add_sub_of_le h]
      rfl
    · rename_i h
      rw [Nat.sub_eq_zero_of_le (Nat.lt_of_not_le h)]
      rfl

theorem nfRange_get (lo hi : Nat) (k : Nat) (hk : k < hi - lo) :
    (nfRange lo hi)[k]? = some (St.nf (lo + k)) := by
  simp [nfRange_eq_map, hk]

theorem nfRange_of_le {lo hi : Nat} (h : hi ≤ lo) : nfRange lo hi = [] := by
  rw [nfRange_eq_map, Nat.sub_eq_zero_of_le h]
  rfl

theorem nfRange_cons {lo hi : Nat} (h : lo < hi) : nfRange lo hi = .nf lo :: nfRange (lo + 1) hi := by
  rw [nfRange_eq_map, nfRange_eq_map, ← Nat.succ_pred_eq_of_pos (Nat.sub_pos_of_lt h), List.range'_succ]
  rfl

theorem chain_fill {N : Nat} {tgt : St} (ht : tgt.WF N) (cur : St) (hlt : cur.val N < tgt.val N) :
    Chain N cur (nfRange (cur.val N + 1) (tgt.val N) ++ [tgt]) := by
  have hN := val_le ht
  obtain ⟨n, h⟩ := Nat.exists_eq_add_of_lt hlt
  clear hlt
  induction n generalizing cur with
  | zero =>
    rw [nfRange_of_le (Nat.le_of_eq h)]
    exact ⟨⟨nonfinal_of_val_lt (N := N) (by omega), ht, .inl h⟩, trivial⟩
  | succ n ih =>
    obtain ⟨h1, h2, h3⟩ : cur.val N + 1 < tgt.val N ∧ cur.val N + 1 < N ∧ tgt.val N = cur.val N + 1 + n + 1 := by
      omega
    rw [nfRange_cons h1]
    exact ⟨⟨nonfinal_of_val_lt (N := N) (Nat.lt_of_succ_lt h2), h2, .inl rfl⟩, ih (.nf (cur.val N + 1)) h3⟩

/-- **what is replayed for a notification that brings progress** (tasks and pilots alike): the states in between and the
    target - the target alone when that is FAILED or CANCELED -, a chain from the current state -/
theorem progress_chain {N : Nat} {cur tgt : St} (ht : tgt.WF N) (hlt : cur.val N < tgt.val N)
    (passed : List St) (hp : passed = nfRange (cur.val N + 1) (tgt.val N) ++ [tgt]) :
    ∃ pre, (if tgt.isFC = true then passed.drop (passed.length - 1) else passed) = pre ++ [tgt]
      ∧ Chain N cur (pre ++ [tgt]) := by
  subst hp
  split
  · rename_i hfc
    exact ⟨[], by simp, ⟨nonfinal_of_val_lt (Nat.lt_of_lt_of_le hlt (val_le ht)), ht, .inr hfc⟩, trivial⟩
  · exact ⟨_, rfl, chain_fill ht cur hlt⟩

/-! ### one notification for a task: `updateOne` -/

theorem taskUpdate_step {N : Nat} (t : Task) (u : Upd) (s : St) (h : Step N t.state s) :
    taskUpdate N t { u with state := s } false
      = .ok { t with state := s, detail := u.detail.or t.detail } := by
  obtain ⟨hf, _, hv⟩ := h
  -- `t` is not final: neither the sticky DONE / FAILED nor the correction for CANCELED applies
  have h1 : ¬ (t.state = .failed ∨ t.state = .done) := fun h => by
    rcases h with h | h <;> rw [h] at hf <;> cases hf
  have h2 : ¬ (t.state = .canceled ∧ s ≠ .done) := fun h => by
    rw [h.1] at hf
    cases hf
  unfold taskUpdate
  rw [if_neg h1, if_neg h2, if_neg]
  rintro ⟨_, hfc, hne⟩
  exact hv.elim hne (fun h => hfc h)

theorem replay_chain {N : Nat} (t : Task) (u : Upd) (ss : List St) (h : Chain N t.state ss) :
    ∃ t', replay N t u ss = .ok (t', ss) ∧ t'.state = lastOf t.state ss
          ∧ t'.uid = t.uid ∧ t'.pilot = t.pilot := by
  induction ss generalizing t with
  | nil => exact ⟨t, rfl, rfl, rfl, rfl⟩
  | cons s ss ih =>
    obtain ⟨hs, hc⟩ := h
    unfold replay
    rw [taskUpdate_step t u s hs]
    have ⟨t', h1, h2, h3, h4⟩ :=
      ih { t with state := s, detail := u.detail.or t.detail } hc
    simp only [h1]
    exact ⟨t', rfl, by simpa [lastOf] using h2, by simpa using h3, by simpa using h4⟩

theorem taskProgress_cases (N : Nat) (cur tgt : St) :
    (∃ s, taskProgress N cur tgt = .ok (s, []) ∧ (cur.isFinal = true ∨ tgt.val N ≤ cur.val N))
    ∨ (cur.val N < tgt.val N
        ∧ taskProgress N cur tgt = .ok (tgt, nfRange (cur.val N + 1) (tgt.val N) ++ [tgt])) := by
  unfold taskProgress
  by_cases h1 : cur = .canceled ∧ tgt.isFinal = true
  · rw [if_pos h1]
    exact .inl ⟨_, rfl, .inl (by rw [h1.1]; rfl)⟩
  rw [if_neg h1]
  by_cases h2 : cur.isFinal = true ∧ tgt.isFinal = true
  · rw [if_pos h2]
    exact .inl ⟨_, rfl, .inl h2.1⟩
  rw [if_neg h2]
  by_cases h3 : cur.val N ≥ tgt.val N
  · rw [if_pos h3]
    exact .inl ⟨_, rfl, .inr h3⟩
  · rw [if_neg h3]
    exact .inr ⟨Nat.lt_of_not_le h3, rfl⟩

/-- **no exception ever escapes the per-task body of `_update_tasks`**; what it notifies is a chain of observable
    steps from the task's current state, and the task moves to the state of the notification iff that has a higher
    value -/
theorem updateOne_spec {N : Nat} (t : Task) (u : Upd) (hu : u.state.WF N) :
    ∃ t' ns, updateOne N t u = .ok (t', ns) ∧ Chain N t.state ns
      ∧ t'.state = lastOf t.state ns ∧ t'.uid = t.uid ∧ t'.pilot = t.pilot
      ∧ t'.state = if t.state.val N < u.state.val N then u.state else t.state := by
  unfold updateOne
  by_cases h0 : t.state = u.state
  · rw [if_pos h0]
    exact ⟨t, [], rfl, trivial, rfl, rfl, rfl, by rw [h0, if_neg (Nat.lt_irrefl _)]⟩
  rw [if_neg h0]
  rcases taskProgress_cases N t.state u.state with ⟨s, hs, hn⟩ | ⟨hlt, hp⟩
  · have hle : u.state.val N ≤ t.state.val N := hn.elim (val_le_of_final hu) id
    refine ⟨t, [], ?_, trivial, rfl, rfl, rfl, by rw [if_neg (Nat.not_lt_of_le hle)]⟩
    rw [hs]
    dsimp only
    split <;> rfl
  · obtain ⟨pre, hpre, hc⟩ := progress_chain hu hlt _ rfl
    obtain ⟨t', e1, e2, e3, e4⟩ := replay_chain t u _ hc
    rw [hp]
    dsimp only
    rw [hpre]
    exact ⟨t', _, e1, hc, e2, e3, e4, by rw [e2, lastOf_snoc, if_pos hlt]⟩

/-! ### one notification for a pilot: `updatePilot` -/

theorem pilotReplay_chain {N : Nat} (cur : St) (ss : List St) (h : Chain N cur ss) :
    pilotReplay N cur ss = .ok (lastOf cur ss, ss) := by
  induction ss generalizing cur with
  | nil => rfl
  | cons s ss ih =>
    obtain ⟨⟨_, _, hv⟩, hc⟩ := h
    unfold pilotReplay
    have : pilotUpdate N cur s = .ok s := by
      unfold pilotUpdate
      rcases hv with hv | hv
      · simp [hv]
      · simp [hv]
    rw [this]
    simp only [ih s hc, lastOf]

theorem pilotProgress_cases (N : Nat) (cur tgt : St) :
    (∃ e, pilotProgress N cur tgt = .error e ∧ cur.isFinal = true)
    ∨ (∃ s, pilotProgress N cur tgt = .ok (s, [])
        ∧ (cur.isFinal = true ∧ tgt.isFinal = true ∧ s = tgt ∨ tgt.val N ≤ cur.val N ∧ s = cur))
    ∨ (cur.val N < tgt.val N
        ∧ pilotProgress N cur tgt = .ok (tgt, nfRange (cur.val N + 1) (tgt.val N) ++ [tgt])) := by
  unfold pilotProgress
  by_cases h1 : cur = .canceled ∧ tgt.isFinal = true
  · rw [if_pos h1]
    exact .inr (.inl ⟨_, rfl, .inl ⟨by rw [h1.1]; rfl, h1.2, rfl⟩⟩)
  rw [if_neg h1]
  by_cases h2 : cur = .failed ∧ tgt.isFinal = true
  · rw [if_pos h2]
    exact .inr (.inl ⟨_, rfl, .inl ⟨by rw [h2.1]; rfl, h2.2, rfl⟩⟩)
  rw [if_neg h2]
  by_cases h3 : cur.isFinal = true ∧ tgt ≠ cur ∧ tgt.isFinal = true
  · rw [if_pos h3]
    exact .inl ⟨_, rfl, h3.1⟩
  rw [if_neg h3]
  by_cases h4 : cur.val N ≥ tgt.val N
  · rw [if_pos h4]
    exact .inr (.inl ⟨_, rfl, .inr ⟨h4, rfl⟩⟩)
  · rw [if_neg h4]
    exact .inr (.inr ⟨Nat.lt_of_not_le h4, rfl⟩)

theorem updatePilot_of_lt {N : Nat} {cur tgt : St} (ht : tgt.WF N) (hlt : cur.val N < tgt.val N) :
    ∃ pre, updatePilot N cur tgt = .ok (tgt, pre ++ [tgt]) ∧ Chain N cur (pre ++ [tgt]) := by
  have h0 : cur ≠ tgt := fun h => by rw [h] at hlt; exact Nat.lt_irrefl _ hlt
  have hnf : cur.isFinal = false := nonfinal_of_val_lt (Nat.lt_of_lt_of_le hlt (val_le ht))
  obtain ⟨pre, hpre, hc⟩ := progress_chain ht hlt _ rfl
  refine ⟨pre, ?_, hc⟩
  unfold updatePilot
  rw [if_neg h0]
  rcases pilotProgress_cases N cur tgt with ⟨_, _, h⟩ | ⟨_, _, ⟨h, _⟩ | ⟨h, _⟩⟩ | ⟨_, hp⟩
  · rw [hnf] at h; cases h
  · rw [hnf] at h; cases h
  · exact absurd hlt (Nat.not_lt_of_le h)
  · rw [hp]
    dsimp only
    rw [hpre, pilotReplay_chain cur _ hc, lastOf_snoc]

/-! ### a batch as one task sees it, and `_update_tasks` projected to that task -/

def uids (ts : Tasks) : List Nat := ts.map (·.uid)

/-- the error branch is never taken (`updateOne_spec`) -/
def one (N : Nat) (t : Task) (u : Upd) : Task × List St :=
  match updateOne N t u with
  | .ok r    => r
  | .error _ => (t, [])

def foldOne (N : Nat) (t : Task) : List Upd → Task × List St
  | []      => (t, [])
  | u :: us =>
    if u.uid = t.uid then
      ((foldOne N (one N t u).1 us).1, (one N t u).2 ++ (foldOne N (one N t u).1 us).2)
    else foldOne N t us

theorem foldOne_cons_pos {N : Nat} {t : Task} {u : Upd} (us : List Upd) (h : u.uid = t.uid) :
    foldOne N t (u :: us) = ((foldOne N (one N t u).1 us).1, (one N t u).2 ++ (foldOne N (one N t u).1 us).2) := by
  rw [foldOne, if_pos h]

theorem foldOne_cons_neg {N : Nat} {t : Task} {u : Upd} (us : List Upd) (h : u.uid ≠ t.uid) :
    foldOne N t (u :: us) = foldOne N t us := by
  rw [foldOne, if_neg h]

theorem one_spec {N : Nat} (t : Task) (u : Upd) (hu : u.state.WF N) :
    updateOne N t u = .ok (one N t u) ∧ Chain N t.state (one N t u).2
      ∧ (one N t u).1.state = lastOf t.state (one N t u).2
      ∧ (one N t u).1.uid = t.uid ∧ (one N t u).1.pilot = t.pilot := by
  have ⟨t', ns, h, c, l, i, p, _⟩ := updateOne_spec (N := N) t u hu
  unfold one
  rw [h]
  exact ⟨rfl, c, l, i, p⟩

theorem one_state {N : Nat} (t : Task) (u : Upd) (hu : u.state.WF N) :
    (one N t u).1.state = if t.state.val N < u.state.val N then u.state else t.state := by
  have ⟨t', ns, h, _, _, _, _, s⟩ := updateOne_spec (N := N) t u hu
  simpa only [one, h] using s

theorem one_wf {N : Nat} (t : Task) (u : Upd) (hu : u.state.WF N) (ht : t.state.WF N) :
    (one N t u).1.state.WF N := by
  rw [one_state t u hu]
  split
  · exact hu
  · exact ht

/-- `_update_tasks` writes back a task it has just looked up, so `setTask` is the replacing branch of `ListAux.upsert` -/
theorem setTask_eq_upsert {ts : Tasks} {t : Task} (h : ts.any (fun z => z.uid = t.uid) = true) :
    setTask ts t = ListAux.upsert (·.uid) ts t := by
  unfold ListAux.upsert
  rw [if_pos h]
  rfl

theorem find_of_mem {ts : Tasks} {t : Task} (hn : (uids ts).Nodup) (h : t ∈ ts) :
    ts.find? (fun x => x.uid = t.uid) = some t := by
  induction ts with
  | nil => cases h
  | cons x xs ih =>
    simp only [uids, List.map_cons, List.nodup_cons] at hn
    rw [List.find?_cons]
    rcases List.mem_cons.mp h with rfl | h
    · simp
    · have : x.uid ≠ t.uid := by
        intro e; exact hn.1 (e ▸ List.mem_map.mpr ⟨t, h, rfl⟩)
      simp [this, ih hn.2 h]

theorem filter_tagged (j k : Nat) (l : List St) :
    (l.map (fun s => (j, s))).filter (fun p => p.1 = k) = if j = k then l.map (fun s => (j, s)) else [] := by
  split
  · rename_i h
    exact List.filter_eq_self.mpr (fun p hp => by obtain ⟨s, _, rfl⟩ := List.mem_map.mp hp; exact decide_eq_true h)
  · rename_i h
    exact List.filter_eq_nil_iff.mpr (fun p hp => by obtain ⟨s, _, rfl⟩ := List.mem_map.mp hp; simpa using h)

/-- **projection**: no exception escapes `_update_tasks`, and what happens to the task `t` it finds under a uid is
    `foldOne t` of the batch, whatever else the batch contains -/
theorem updateTasksAux_proj {N : Nat} (us : List Upd) (hw : ∀ u ∈ us, u.state.WF N) (ts : Tasks)
    (acc : List (Nat × St)) :
    (updateTasksAux N ts us acc).2.2 = none
    ∧ ∀ t, ts.find? (fun x => x.uid = t.uid) = some t →
      (updateTasksAux N ts us acc).1.find? (fun x => x.uid = t.uid) = some (foldOne N t us).1
      ∧ (updateTasksAux N ts us acc).2.1.filter (fun p => p.1 = t.uid)
          = acc.filter (fun p => p.1 = t.uid) ++ (foldOne N t us).2.map (fun s => (t.uid, s)) := by
  induction us generalizing ts acc with
  | nil => exact ⟨rfl, fun t ht => ⟨ht, (List.append_nil _).symm⟩⟩
  | cons u us ih =>
    obtain ⟨hwu, hws⟩ := List.forall_mem_cons.mp hw
    have ih := ih hws
    unfold updateTasksAux
    cases hf : ts.find? (fun x => x.uid = u.uid) with
    | none =>
      obtain ⟨i1, ih⟩ := ih ts acc
      refine ⟨i1, fun t ht => ?_⟩
      have hu : u.uid ≠ t.uid := fun e => by rw [e, ht] at hf; cases hf
      rw [foldOne_cons_neg us hu]
      exact ih t ht
    | some t0 =>
      have ⟨e1, _, _, e4, _⟩ := one_spec (N := N) t0 u hwu
      simp only [e1]
      obtain ⟨i1, ih⟩ := ih (setTask ts (one N t0 u).1) (acc ++ (one N t0 u).2.map (fun s => (u.uid, s)))
      refine ⟨i1, fun t ht => ?_⟩
      have hany : ts.any (fun z => z.uid = (one N t0 u).1.uid) = true :=
        List.any_eq_true.mpr ⟨t0, List.mem_of_find?_eq_some hf, decide_eq_true e4.symm⟩
      by_cases hu : u.uid = t.uid
      · obtain rfl : t0 = t := Option.some.inj (hf.symm.trans (hu ▸ ht))
        obtain ⟨i2, i3⟩ := ih (one N t0 u).1 (by rw [setTask_eq_upsert hany, ListAux.find?_upsert, if_pos rfl])
        rw [e4] at i2 i3
        rw [foldOne_cons_pos us hu]
        refine ⟨i2, ?_⟩
        rw [i3, List.filter_append, hu, filter_tagged, if_pos rfl, List.map_append, List.append_assoc]
      · have h0u : t0.uid = u.uid := by simpa using List.find?_some hf
        have h0 : (one N t0 u).1.uid ≠ t.uid := fun e => hu (h0u.symm.trans (e4.symm.trans e))
        obtain ⟨i2, i3⟩ := ih t (by rw [setTask_eq_upsert hany, ListAux.find?_upsert, if_neg (Ne.symm h0), ht])
        rw [foldOne_cons_neg us hu]
        refine ⟨i2, ?_⟩
        rw [i3, List.filter_append, filter_tagged, if_neg hu, List.append_nil]

theorem foldOne_spec {N : Nat} (us : List Upd) (hw : ∀ u ∈ us, u.state.WF N) (t : Task) :
    Chain N t.state (foldOne N t us).2
    ∧ (foldOne N t us).1.state = lastOf t.state (foldOne N t us).2
    ∧ (foldOne N t us).1.uid = t.uid ∧ (foldOne N t us).1.pilot = t.pilot := by
  induction us generalizing t with
  | nil => simp [foldOne, Chain, lastOf]
  | cons u us ih =>
    obtain ⟨hwu, hws⟩ := List.forall_mem_cons.mp hw
    by_cases hu : u.uid = t.uid
    · rw [foldOne_cons_pos us hu]
      have ⟨_, c, l, i, p⟩ := one_spec (N := N) t u hwu
      have ⟨c', l', i', p'⟩ := ih hws (one N t u).1
      rw [l] at c' l'
      exact ⟨chain_append c c', by rw [lastOf_append, l'], by rw [i', i], by rw [p', p]⟩
    · rw [foldOne_cons_neg us hu]
      exact ih hws t

theorem foldOne_append (N : Nat) (t : Task) (xs ys : List Upd) :
    foldOne N t (xs ++ ys)
      = ((foldOne N (foldOne N t xs).1 ys).1, (foldOne N t xs).2 ++ (foldOne N (foldOne N t xs).1 ys).2) := by
  induction xs generalizing t with
  | nil => simp [foldOne]
  | cons x xs ih =>
    rw [List.cons_append]
    by_cases hx : x.uid = t.uid
    · rw [foldOne_cons_pos _ hx, foldOne_cons_pos _ hx, ih, List.append_assoc]
    · rw [foldOne_cons_neg _ hx, foldOne_cons_neg _ hx, ih]

theorem foldOne_uid_eq {N : Nat} (us : List Upd) (hw : ∀ u ∈ us, u.state.WF N) (t : Task) :
    (foldOne N t us).1.uid = t.uid := (foldOne_spec us hw t).2.2.1

theorem foldOne_preserves {N : Nat} {P : Task → Prop} {k : Nat} (us : List Upd) (hw : ∀ u ∈ us, u.state.WF N)
    (hstep : ∀ u ∈ us, u.uid = k → ∀ s : Task, s.uid = k → P s → P (one N s u).1)
    (t : Task) (hk : t.uid = k) (h : P t) : P (foldOne N t us).1 := by
  induction us generalizing t with
  | nil => exact h
  | cons u us ih =>
    obtain ⟨hwu, hws⟩ := List.forall_mem_cons.mp hw
    obtain ⟨hstepu, hsteps⟩ := List.forall_mem_cons.mp hstep
    have ih := ih hws hsteps
    by_cases hu : u.uid = t.uid
    · rw [foldOne_cons_pos us hu]
      have ⟨_, _, _, huid, _⟩ := one_spec (N := N) t u hwu
      exact ih _ (huid.trans hk) (hstepu (hu.trans hk) t hk h)
    · rw [foldOne_cons_neg us hu]
      exact ih t hk h

theorem foldOne_wf {N : Nat} (us : List Upd) (hw : ∀ u ∈ us, u.state.WF N) (t : Task) (ht : t.state.WF N) :
    (foldOne N t us).1.state.WF N :=
  foldOne_preserves us hw (fun u hu _ s _ h => one_wf s u (hw u hu) h) t rfl ht

theorem foldOne_skip (N : Nat) (t : Task) (xs : List Upd) (hw : ∀ u ∈ xs, u.state.WF N) (d : Upd) (ys : List Upd)
    (hd : d.uid ≠ t.uid) :
    foldOne N t (xs ++ d :: ys) = foldOne N t (xs ++ ys) := by
  have : d.uid ≠ (foldOne N t xs).1.uid := by rw [foldOne_uid_eq xs hw]; exact hd
  rw [foldOne_append, foldOne_append, foldOne_cons_neg ys this]

theorem runBatches_proj {N : Nat} (bs : List (List Upd)) (hw : ∀ b ∈ bs, ∀ u ∈ b, u.state.WF N) :
    ∀ (ts : Tasks) (t : Task), ts.find? (fun x => x.uid = t.uid) = some t →
      (runBatches N ts bs).1.find? (fun x => x.uid = t.uid) = some (foldOne N t bs.flatten).1
      ∧ (runBatches N ts bs).2.filter (fun p => p.1 = t.uid)
          = (foldOne N t bs.flatten).2.map (fun s => (t.uid, s)) := by
  induction bs with
  | nil => exact fun ts t ht => ⟨ht, rfl⟩
  | cons b bs ih =>
    intro ts t ht
    have hwb : ∀ u ∈ b, u.state.WF N := hw b List.mem_cons_self
    have ⟨p1, p2⟩ := (updateTasksAux_proj (N := N) b hwb ts []).2 t ht
    have hu : (foldOne N t b).1.uid = t.uid := foldOne_uid_eq b hwb t
    have ⟨q1, q2⟩ := ih (List.forall_mem_cons.mp hw).2 (updateTasksAux N ts b []).1 (foldOne N t b).1
      (by rw [hu]; exact p1)
    rw [hu] at q1 q2
    simp only [runBatches, updateTasks, List.flatten_cons, foldOne_append]
    refine ⟨q1, ?_⟩
    simp only [List.filter_append, q2, p2, List.filter_nil, List.nil_append, List.map_append]

end RPVerif.States
