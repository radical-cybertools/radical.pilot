import RPVerif.Lemmas.SchedHist
/-!
Shape of a whole placement (C02): the node loop of `schedule_task` collects exactly the requested
number of slots, every one of the requested shape, only on nodes the colocate / exclusive tags allow.
-/
namespace RPVerif.Sched
open List

/-- the shape of one slot of a placement for request `r` -/
def SlotOK (cps : Nat) (r : Req) (sl : Slot) : Prop :=
  sl.cores.length = cps ∧ sl.lfs = r.lfs ∧ sl.mem = r.mem
  ∧ (r.gpr ≥ 16 → sl.gpus.length = r.gpr / 16 ∧ (sl.gpus.map (·.1)).Pairwise (· < ·) ∧ ∀ g ∈ sl.gpus, g.2 = 16)
  ∧ (0 < r.gpr ∧ r.gpr < 16 → ∃ g, sl.gpus = [(g, r.gpr)])
  ∧ (r.gpr = 0 → sl.gpus = [])

theorem scheduleTask_shape (c : Cfg) (s : SchedSt) (r : Req) (slots : List Slot) (hnn : NonNeg s.nodes)
    (h : (scheduleTask c s r).1 = .ok (some slots)) :
    slots.length = r.ranks.toNat
    ∧ (∀ sl ∈ slots, SlotOK (cpsOf r) r sl)
    ∧ (∀ sl ∈ slots, (∃ n ∈ s.nodes, n.index = sl.node) ∧ coloSkip (coloOf s r) sl.node = false ∧ sl.node ∉ skipOf s r) := by
  obtain ⟨it, hnl, hrem, rfl, _⟩ := scheduleTask_ok c s r slots h
  -- along the node loop: slots still missing + slots collected = slots requested
  have key := nodeLoop_run hnn (cpsOf_pos r)
    (fun alc rem => rem + alc.length = r.ranks.toNat
      ∧ ∀ sl ∈ alc, SlotOK (cpsOf r) r sl
          ∧ (∃ n ∈ s.nodes, n.index = sl.node) ∧ coloSkip (coloOf s r) sl.node = false ∧ sl.node ∉ skipOf s r)
    ⟨Nat.add_zero _, forall_mem_nil _⟩ ?_ hnl
  · rw [hrem, Nat.zero_add] at key
    exact ⟨key.1, fun sl hs => (key.2 sl hs).1, fun sl hs => (key.2 sl hs).2⟩
  · intro alc rem node new hP hmem _ hcolo htag hfit hlen _
    refine ⟨?_, forall_mem_append.mpr ⟨hP.2, fun sl hs => ?_⟩⟩
    · rw [length_append, ← hP.1, Nat.add_comm alc.length, ← Nat.add_assoc, Nat.sub_add_cancel hlen]
    · obtain ⟨hn, hshape⟩ := hfit.shape sl hs
      rw [hn]
      exact ⟨hshape, ⟨node, hmem, rfl⟩, hcolo, htag⟩

theorem coloSkip_false_mem (l : List Nat) (idx : Nat) (h : coloSkip (some l) idx = false) : idx ∈ l := by
  simpa [coloSkip] using h

theorem scheduleTask_colocate (c : Cfg) (s : SchedSt) (r : Req) (tag : Nat) (l : List Nat) (slots : List Slot)
    (hnn : NonNeg s.nodes) (ht : r.colo = some tag) (hh : s.coloHist.find? (fun e => e.1 = tag) = some (tag, l))
    (h : (scheduleTask c s r).1 = .ok (some slots)) :
    (∀ sl ∈ slots, sl.node ∈ l)
    ∧ (scheduleTask c s r).2.coloHist.find? (fun e => e.1 = tag) = some (tag, slots.map (·.node)) := by
  have hcolo : coloOf s r = some l := by unfold coloOf; rw [ht]; simp only; rw [hh]
  have hsh := scheduleTask_shape c s r slots hnn h
  refine ⟨fun sl hs => coloSkip_false_mem l sl.node (by rw [← hcolo]; exact (hsh.2.2 sl hs).2.1), ?_⟩
  obtain ⟨it, _, hrem, rfl, hst⟩ := scheduleTask_ok c s r slots h
  rw [hst]
  unfold finishTask
  rw [if_neg (by rw [hrem]; exact Nat.lt_irrefl 0), ht]
  rw [find?_append, ListAux.find?_filter_ne, if_pos rfl, Option.none_or, find?_singleton, if_pos (decide_eq_true rfl)]

/-- the number of ranks a placement puts on the node with index `idx` -/
def slotsOn (slots : List Slot) (idx : Nat) : Nat := (slots.filter (fun sl => sl.node = idx)).length

theorem slotsPerNode_le_rpn (c : Cfg) (r : Req) (cps : Nat) (h : r.rpn ≠ 0) : slotsPerNode c r cps ≤ r.rpn := by
  -- every limit applied after the ranks-per-node limit can only lower the count
  have hmin : ∀ (p : Prop) [Decidable p] (x y : Nat), (if p then min x y else x) ≤ x := by
    intro p _ x y
    split
    · exact Nat.min_le_left x y
    · exact Nat.le_refl x
  unfold slotsPerNode
  refine Nat.le_trans (hmin _ _ _) (Nat.le_trans (hmin _ _ _) (Nat.le_trans (hmin _ _ _) ?_))
  rw [if_pos h]
  exact Nat.min_le_right _ _

/-- a node is asked for at most `slots_per_node` slots, and is asked once -/
theorem scheduleTask_pernode (c : Cfg) (s : SchedSt) (r : Req) (slots : List Slot) (hw : NodesWF s.nodes) (hnn : NonNeg s.nodes)
    (h : (scheduleTask c s r).1 = .ok (some slots)) (idx : Nat) :
    slotsOn slots idx ≤ slotsPerNode c r (cpsOf r) ∧ (r.rpn ≠ 0 → slotsOn slots idx ≤ r.rpn) := by
  obtain ⟨it, hnl, _, rfl, _⟩ := scheduleTask_ok c s r slots h
  have key : slotsOn it.alc idx ≤ slotsPerNode c r (cpsOf r) := by
    refine nodeLoop_run hnn (cpsOf_pos r)
      (fun alc _ => ∀ idx, slotsOn alc idx ≤ slotsPerNode c r (cpsOf r)) (fun _ => Nat.zero_le _) ?_ hnl idx
    intro alc rem node new hP _ hold _ _ hfit _ hlen idx
    unfold slotsOn
    rw [filter_node_append alc new node.index idx (hold hw) (fun sl hs => (hfit.shape sl hs).1)]
    split
    · exact hlen
    · exact hP idx
  exact ⟨key, fun hr => Nat.le_trans key (slotsPerNode_le_rpn c r (cpsOf r) hr)⟩

end RPVerif.Sched
