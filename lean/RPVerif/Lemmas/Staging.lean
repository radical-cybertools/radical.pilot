import RPVerif.Model.Staging
import RPVerif.Lemmas.ListAux
/-! lemmas for C11 -/
namespace RPVerif.Staging
open List

/-! ### the file system -/

theorem read_write_same (fs : FS) (p : Path) (c : Content) : (fs.write p c).read p = some c := by
  unfold FS.write FS.read
  rw [ListAux.find?_cons_filter_ne, if_pos rfl]

theorem read_write_other (fs : FS) {p q : Path} (c : Content) (h : q ≠ p) : (fs.write p c).read q = fs.read q := by
  unfold FS.write FS.read
  rw [ListAux.find?_cons_filter_ne, if_neg h]

theorem read_remove_same (fs : FS) (p : Path) : (fs.remove p).read p = none := by
  unfold FS.remove FS.read
  rw [ListAux.find?_filter_ne, if_pos rfl]

theorem read_remove_other (fs : FS) {p q : Path} (h : q ≠ p) : (fs.remove p).read q = fs.read q := by
  unfold FS.remove FS.read
  rw [ListAux.find?_filter_ne, if_neg h]

/-- what `unpack` touches depends on the tarball's content: the frame lemmas are for the other (`simple`) operations -/
def touched : Op → List Path
  | .copy _ t => [t]
  | .link _ t => [t]
  | .move s t => [s, t]
  | .put t _  => [t]
  | .unpack _ => []

def Op.simple : Op → Bool
  | .unpack _ => false
  | _         => true

theorem stepOp_transfer {fs fs' : FS} {op : Op} {s t : Path} (hop : op = .copy s t ∨ op = .link s t ∨ op = .move s t)
    (h : stepOp fs op = some fs') :
    ∃ c, fs.read s = some c ∧ fs' = if op = .move s t then (fs.write t c).remove s else fs.write t c := by
  cases hr : fs.read s with
  | none =>
    rcases hop with rfl | rfl | rfl <;> simp [stepOp, hr] at h
  | some c =>
    refine ⟨c, rfl, ?_⟩
    rcases hop with rfl | rfl | rfl
    · rw [stepOp, hr] at h
      rw [if_neg Op.noConfusion]
      exact (Option.some.inj h).symm
    · -- a link also wants the target absent
      simp only [stepOp, hr, Option.ite_none_left_eq_some, Option.some.injEq] at h
      rw [if_neg Op.noConfusion]
      exact h.2.symm
    · rw [stepOp, hr] at h
      rw [if_pos rfl]
      exact (Option.some.inj h).symm

theorem step_frame {fs fs' : FS} {op : Op} {p : Path} (hs : op.simple = true) (h : stepOp fs op = some fs')
    (hp : p ∉ touched op) : fs'.read p = fs.read p := by
  cases op with
  | unpack t => cases hs
  | put t c =>
    cases h
    exact read_write_other fs c (ne_of_not_mem_cons hp)
  | copy s t | link s t =>
    obtain ⟨c, -, rfl⟩ := stepOp_transfer (s := s) (t := t) (by simp) h
    exact read_write_other fs c (ne_of_not_mem_cons hp)
  | move s t =>
    obtain ⟨c, -, rfl⟩ := stepOp_transfer (Or.inr (Or.inr rfl)) h
    rw [if_pos rfl, read_remove_other _ (ne_of_not_mem_cons hp),
      read_write_other fs c (ne_of_not_mem_cons (not_mem_of_not_mem_cons hp))]

theorem step_effect {fs fs' : FS} {op : Op} {s t : Path} (hop : op = .copy s t ∨ op = .link s t ∨ op = .move s t)
    (hst : s ≠ t) (h : stepOp fs op = some fs') :
    fs'.read t = fs.read s ∧ (fs.read s).isSome = true ∧ (op = .move s t → fs'.read s = none) := by
  obtain ⟨c, hc, rfl⟩ := stepOp_transfer hop h
  rw [hc]
  by_cases hm : op = .move s t
  · rw [if_pos hm, read_remove_other _ hst.symm, read_write_same]
    exact ⟨rfl, rfl, fun _ => read_remove_same _ _⟩
  · rw [if_neg hm, read_write_same]
    exact ⟨rfl, rfl, fun h => absurd h hm⟩

theorem exec_frame {ops : List Op} {fs fs' : FS} {b : Bool} {p : Path} (hs : ∀ op ∈ ops, op.simple = true)
    (h : exec fs ops = (fs', b)) (hp : ∀ op ∈ ops, p ∉ touched op) : fs'.read p = fs.read p := by
  fun_induction exec fs ops with
  | case1 fs | case3 fs op ops hst => cases h; rfl
  | case2 fs op ops fs1 hst ih =>
    rw [ih (fun o ho => hs o (mem_cons_of_mem _ ho)) h (fun o ho => hp o (mem_cons_of_mem _ ho)),
      step_frame (hs op mem_cons_self) hst (hp op mem_cons_self)]

theorem exec_append (ops1 ops2 : List Op) (fs : FS) :
    exec fs (ops1 ++ ops2) = (match exec fs ops1 with
                              | (fs1, true)  => exec fs1 ops2
                              | (fs1, false) => (fs1, false)) := by
  fun_induction exec fs ops1 with
  | case1 fs => rfl
  | case2 fs op ops fs1 hst ih => rw [cons_append, exec, hst]; exact ih
  | case3 fs op ops hst => rw [cons_append, exec, hst]

theorem exec_effect {before after : List Op} {op : Op} {s t : Path} {fs fs' : FS}
    (hop : op = .copy s t ∨ op = .link s t ∨ op = .move s t) (hst : s ≠ t)
    (hsimple : ∀ o ∈ before ++ after, o.simple = true)
    (hbefore : ∀ o ∈ before, s ∉ touched o) (hafter : ∀ o ∈ after, t ∉ touched o)
    (h : exec fs (before ++ op :: after) = (fs', true)) :
    fs'.read t = fs.read s ∧ (fs.read s).isSome = true := by
  rw [exec_append] at h
  rcases h1 : exec fs before with ⟨fs1, b1⟩
  rw [h1] at h
  cases b1 with
  | false => cases h
  | true =>
    simp only [exec] at h
    cases h2 : stepOp fs1 op with
    | none => rw [h2] at h; cases h
    | some fs2 =>
      rw [h2] at h
      have f1 : fs1.read s = fs.read s := exec_frame (fun o ho => hsimple o (mem_append_left _ ho)) h1 hbefore
      have e := step_effect hop hst h2
      have f2 : fs'.read t = fs2.read t := exec_frame (fun o ho => hsimple o (mem_append_right _ ho)) h hafter
      rw [f2, e.1, ← f1]
      exact ⟨rfl, e.2.1⟩

theorem writeAll_frame {es : List (Path × Nat)} (fs : FS) {p : Path} (hp : p ∉ es.map (·.1)) :
    (writeAll fs es).read p = fs.read p := by
  fun_induction writeAll fs es with
  | case1 fs => rfl
  | case2 fs q c es ih =>
    rw [map_cons, mem_cons, not_or] at hp
    rw [ih hp.2, read_write_other fs _ hp.1]

theorem writeAll_effect (es : List (Path × Nat)) (fs : FS) (hnd : (es.map (·.1)).Nodup) :
    ∀ e ∈ es, (writeAll fs es).read e.1 = some (.data e.2) := by
  fun_induction writeAll fs es with
  | case1 fs => intro e he; cases he
  | case2 fs q c es ih =>
    intro e he
    rw [map_cons, nodup_cons] at hnd
    rcases mem_cons.mp he with rfl | he'
    · rw [writeAll_frame _ hnd.1, read_write_same]
    · exact ih hnd.2 e he'

/-! ### the separators of the short forms -/

theorem pre_self_append (sep t : Str) : pre sep (sep ++ t) = true := by
  induction sep with
  | nil => rfl
  | cons a as ih => simp [pre, ih]

theorem pre_head (a : Char) (rest u : Str) (h : pre (a :: rest) u = true) : u.head? = some a := by
  cases u with
  | nil => simp [pre] at h
  | cons c cs => simp only [pre, Bool.and_eq_true, decide_eq_true_eq] at h; simp [h.1]

theorem findSplit_absent (a : Char) (rest u : Str) (h : a ∉ u) : findSplit (a :: rest) u = none := by
  induction u with
  | nil => rfl
  | cons c cs ih =>
    rw [mem_cons, not_or] at h
    simp [findSplit, pre, h.1, ih h.2]

theorem findSplit_here (a : Char) (rest s t : Str) (h : a ∉ s) :
    findSplit (a :: rest) (s ++ a :: (rest ++ t)) = some (s, t) := by
  induction s with
  | nil =>
    have hp : pre (a :: rest) (a :: (rest ++ t)) = true := pre_self_append (a :: rest) t
    simp [findSplit, hp]
  | cons c cs ih =>
    rw [mem_cons, not_or] at h
    simp [findSplit, pre, h.1, ih h.2]

theorem hasSub_absent (a : Char) (rest u : Str) (h : a ∉ u) : hasSub (a :: rest) u = false := by
  rw [hasSub, findSplit_absent a rest u h]; rfl

theorem hasSub_here (a : Char) (rest s t : Str) (h : a ∉ s) : hasSub (a :: rest) (s ++ a :: (rest ++ t)) = true := by
  rw [hasSub, findSplit_here a rest s t h]; rfl

theorem hasSub_double_absent (c : Char) (s t : Str) (hs : c ∉ s) (ht : c ∉ t) : hasSub [c, c] (s ++ c :: t) = false := by
  have hnone : findSplit [c, c] (s ++ c :: t) = none := by
    induction s with
    | nil =>
      have h1 : pre [c, c] (c :: t) = false := by
        cases t with
        | nil => simp [pre]
        | cons d ds =>
          rw [mem_cons, not_or] at ht
          simp [pre, ht.1]
      simp [findSplit, h1, findSplit_absent c [c] t ht]
    | cons d ds ih =>
      rw [mem_cons, not_or] at hs
      simp [findSplit, pre, hs.1, ih hs.2]
  rw [hasSub, hnone]; rfl

theorem split2_here (a : Char) (rest s t : Str) (hs : a ∉ s) (ht : a ∉ t) :
    split2 (a :: rest) (s ++ a :: (rest ++ t)) = .ok (s, t) := by
  unfold split2
  rw [findSplit_here a rest s t hs]
  simp only [findSplit_absent a rest t ht, Option.isSome_none, Bool.false_eq_true, if_false]

/-! ### URLs, contexts, the helper's operations -/

theorem urlOf_no_schema (p : Str) (h : findSplit "://".toList p = none) : urlOf p = { schema := [], host := [], path := p } := by
  rw [urlOf, h]

theorem urlOf_schema (sch rest : Str) (h : ':' ∉ sch) :
    urlOf (sch ++ "://".toList ++ rest)
      = { schema := sch, host := rest.takeWhile (· ≠ '/'), path := rest.dropWhile (· ≠ '/') } := by
  -- `"…".toList` decodes UTF-8, slow to check; a literal is `String.ofList` of its characters (`String.toList_ofList`)
  rw [urlOf, String.toList_ofList, append_assoc, cons_append, findSplit_here ':' ['/', '/'] sch rest h]

theorem lookup_nil (k : Str) : lookup [] k = none := rfl

theorem lookup_cons (k k' : String) (v : Str) (ctx : List (String × Str)) :
    lookup ((k, v) :: ctx) k'.toList = if k = k' then some v else lookup ctx k'.toList := by
  unfold lookup
  rw [find?_cons]
  by_cases h : k = k'
  · simp [h]
  · simp [h, String.toList_inj]

theorem helperOp_some_cases {a : String} {s g : Path} {op : Op} (h : helperOp a s g = some op) :
    op = .copy s g ∨ op = .link s g ∨ op = .move s g := by
  unfold helperOp at h
  by_cases h1 : a = "Copy" ∨ a = "Transfer"
  · rw [if_pos h1] at h
    exact Or.inl (Option.some.inj h).symm
  rw [if_neg h1] at h
  by_cases h2 : a = "Link"
  · rw [if_pos h2] at h
    exact Or.inr (Or.inl (Option.some.inj h).symm)
  rw [if_neg h2] at h
  by_cases h3 : a = "Move"
  · rw [if_pos h3] at h
    exact Or.inr (Or.inr (Option.some.inj h).symm)
  rw [if_neg h3] at h
  cases h

theorem resolveOp_ok_cases {sc tc : List (String × Str)} {sd : SD} {op : Op} (h : resolveOp sc tc sd = .ok op) :
    ∃ s g, op = .copy s g ∨ op = .link s g ∨ op = .move s g := by
  unfold resolveOp at h
  split at h
  · next s g _ _ =>
    split at h
    · next op' hh =>
      cases h
      unfold helperOpU at hh
      split at hh
      · cases hh
      · exact ⟨_, _, helperOp_some_cases hh⟩
    · cases h
  · cases h
  · cases h

/-! ### the stagers' loops -/

theorem foldl_error {α σ ε : Type} (step : Except ε σ → α → Except ε σ) (hstep : ∀ e a, step (.error e) a = .error e)
    (l : List α) (e : ε) : l.foldl step (.error e) = .error e :=
  foldlRecOn l step (motive := fun acc => acc = .error e) rfl (fun _ hb a _ => by rw [hb, hstep])

/-- one directive in the loop of `tmgrOutPlan`, resolved by `f` -/
def resolveStep (f : SD → Except Err Op) (acc : Except Err (List Op)) (sd : SD) : Except Err (List Op) :=
  match acc with
  | .error e => .error e
  | .ok ops  => match f sd with
                | .ok op   => .ok (ops ++ [op])
                | .error e => .error e

theorem foldl_resolveStep (f : SD → Except Err Op) (acts : List SD) : ∀ (init res : List Op),
    acts.foldl (resolveStep f) (.ok init) = .ok res →
    ∃ l, res = init ++ l ∧ l.length = acts.length ∧ ∀ p ∈ acts.zip l, f p.1 = .ok p.2 := by
  induction acts with
  | nil => intro init res h; cases h; exact ⟨[], by simp, rfl, by simp⟩
  | cons sd acts ih =>
    intro init res h
    rw [foldl_cons, resolveStep] at h
    cases hf : f sd with
    | error e =>
      rw [hf, foldl_error _ (fun _ _ => rfl)] at h
      cases h
    | ok op =>
      rw [hf] at h
      obtain ⟨l, rfl, hlen, hall⟩ := ih (init ++ [op]) res h
      refine ⟨op :: l, by simp, by simp [hlen], ?_⟩
      intro p hp
      rw [zip_cons_cons] at hp
      rcases mem_cons.mp hp with rfl | hp
      · exact hf
      · exact hall p hp

/-- the loop of an agent side stager: a directive it acts on (`keep`) gives an operation, needs none (`some none`),
    or cannot be carried out (`none`), which ends the loop -/
def stageStep (keep : SD → Bool) (f : SD → Option (Option Op)) (acc : List Op × Bool) (sd : SD) : List Op × Bool :=
  if ¬ acc.2 then acc
  else if ¬ keep sd then acc
  else
    match f sd with
    | some (some op) => (acc.1 ++ [op], true)
    | some none      => acc
    | none           => (acc.1, false)

theorem foldl_stageStep (keep : SD → Bool) (f : SD → Option (Option Op)) (l : List SD) : ∀ (ops : List Op),
    l.foldl (stageStep keep f) (ops, true)
      = (ops ++ ((l.filter keep).takeWhile (fun sd => (f sd).isSome)).filterMap (fun sd => (f sd).join),
         (l.filter keep).all (fun sd => (f sd).isSome)) := by
  induction l with
  | nil => intro ops; simp
  | cons sd l ih =>
    intro ops
    rw [foldl_cons]
    by_cases hk : keep sd = true
    · cases hf : f sd with
      | none =>
        -- the rest is skipped, as `takeWhile` and `all` stop here
        have hskip : l.foldl (stageStep keep f) (ops, false) = (ops, false) :=
          foldlRecOn l _ (motive := fun acc => acc = (ops, false)) rfl (fun _ hb sd _ => by rw [hb]; rfl)
        simp [stageStep, hk, hf, hskip]
      | some o =>
        cases o <;> simp [stageStep, hk, hf, ih]
    · simp [stageStep, hk, ih]

theorem foldl_stageStep_ok (keep : SD → Bool) (f : SD → Option (Option Op)) (l : List SD)
    (h : (l.foldl (stageStep keep f) ([], true)).2 = true) :
    (l.foldl (stageStep keep f) ([], true)).1 = (l.filter keep).filterMap (fun sd => (f sd).join)
    ∧ ∀ sd ∈ l.filter keep, (f sd).isSome = true := by
  rw [foldl_stageStep] at h ⊢
  have hall := all_eq_true.mp h
  have htake : (l.filter keep).takeWhile (fun sd => (f sd).isSome) = l.filter keep := by
    have := takeWhile_append_of_pos (l₂ := []) hall
    rwa [append_nil, takeWhile_nil, append_nil] at this
  rw [htake]
  exact ⟨rfl, hall⟩

/-! ### the scratch tarball -/

theorem scratchGet_tarStep_other (d : Scratch) {p q : Nat × Nat} (op : TarOp) (h : q ≠ p) :
    scratchGet (tarStep d p op).1 q = scratchGet d q := by
  cases op with
  | pack m =>
    unfold tarStep scratchGet
    rw [ListAux.find?_cons_filter_ne, if_neg h]
  | ship => rfl
  | remove =>
    unfold tarStep scratchGet
    rw [ListAux.find?_filter_ne, if_neg h]

theorem scratchGet_tarStep_self (d : Scratch) (p : Nat × Nat) (op : TarOp) :
    scratchGet (tarStep d p op).1 p = (match op with
                                       | .pack m => some m
                                       | .ship   => scratchGet d p
                                       | .remove => none) := by
  cases op with
  | pack m =>
    unfold tarStep scratchGet
    rw [ListAux.find?_cons_filter_ne, if_pos rfl]
    rfl
  | ship => rfl
  | remove =>
    unfold tarStep scratchGet
    rw [ListAux.find?_filter_ne, if_pos rfl]
    rfl

theorem tarRun_cons (unique : Bool) (d : Scratch) (c u : Nat) (op : TarOp) (rest : List (Nat × Nat × TarOp)) :
    tarRun unique d ((c, u, op) :: rest)
      = (if op = .ship then [(c, scratchGet d (scratchOf unique c u))] else [])
        ++ tarRun unique (tarStep d (scratchOf unique c u) op).1 rest := by
  cases op <;> rfl

/-- `(0, c)` is `scratchOf true c u`: the scratch file of call `c`, whatever the uid -/
theorem tarRun_isolated (c : Nat) (l : List (Nat × Nat × TarOp)) : ∀ (d d' : Scratch),
    scratchGet d (0, c) = scratchGet d' (0, c) →
    (tarRun true d l).filter (fun r => r.1 = c) = tarRun true d' (l.filter (fun x => x.1 = c)) := by
  have hfile : ∀ c u, scratchOf true c u = (0, c) := fun _ _ => rfl
  induction l with
  | nil => intro d d' _; rfl
  | cons x rest ih =>
    intro d d' hd
    obtain ⟨c1, u1, op⟩ := x
    rw [tarRun_cons, hfile, filter_append]
    by_cases hc : c1 = c
    · -- a step of `c`: both runs take it, on the same file
      subst hc
      have hd1 : scratchGet (tarStep d (0, c1) op).1 (0, c1) = scratchGet (tarStep d' (0, c1) op).1 (0, c1) := by
        rw [scratchGet_tarStep_self, scratchGet_tarStep_self, hd]
      rw [filter_cons_of_pos (by simp), tarRun_cons, hfile, ih _ _ hd1, hd]
      cases op <;> simp
    · -- another call's step: only the first run takes it, on another file, and its report is dropped
      have hd1 : scratchGet (tarStep d (0, c1) op).1 (0, c) = scratchGet d' (0, c) := by
        rw [scratchGet_tarStep_other d op (by simpa using Ne.symm hc), hd]
      rw [filter_cons_of_neg (by simpa using hc), ih _ _ hd1]
      cases op <;> simp [hc]

end RPVerif.Staging
