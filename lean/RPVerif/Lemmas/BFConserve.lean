import RPVerif.Lemmas.TmgrSched
/-!
Conservation of tasks in the Backfilling scheduler (C12): a uid handed in at most once is forwarded once or still held
once.  The wait pool of Backfilling is a dict keyed by uid (`waitInsert`), hence the uniqueness hypothesis, stated per uid.
-/
namespace RPVerif.TmgrSched
open List

theorem bfLoop_conserve (ps : List Pilot) (pids : List Nat) (ts : List Task) (a : Nat) :
    count a (fwdUids (bfLoop ps pids ts).2.2) + count a (uids (bfLoop ps pids ts).2.1) = count a (uids ts) := by
  induction ts generalizing ps pids with
  | nil => rfl
  | cons t ts ih =>
    cases hb : bfPlace ps t pids with
    | none =>
      rw [bfLoop_cons_none hb, uids_cons, uids_cons, count_cons, count_cons, ← Nat.add_assoc, ih]
    | some r =>
      rw [bfLoop_cons_some hb, fwdUids_cons_fwd, uids_cons, count_cons, count_cons, Nat.add_right_comm, ih]

theorem bfSchedule_conserve (c : BFCfg) (s : S) (a : Nat) :
    count a (fwdUids (bfSchedule c s).2) + count a (held (bfSchedule c s).1) = count a (held s) := by
  rw [bfSchedule_eq]
  simp only [held, count_append]
  rw [← Nat.add_assoc, bfLoop_conserve]

theorem uids_waitInsert (w : List Task) (t : Task) :
    uids (waitInsert w t) = if w.any (fun x => x.uid = t.uid) then uids w else uids w ++ [t.uid] :=
  ListAux.map_key_upsert Task.uid w t

/-- `hle` excludes the one case where the dict merges two entries: `a` in the pool and on the task -/
theorem count_uids_waitInsert (w : List Task) (t : Task) (a : Nat) (hle : count a (uids w) + count a [t.uid] ≤ 1) :
    count a (uids (waitInsert w t)) = count a (uids w) + count a [t.uid] := by
  rw [uids_waitInsert]
  split
  · next hin =>
    have hpos := (ListAux.any_eq_iff_count_pos (·.uid) w t.uid).mp hin
    by_cases e : t.uid = a
    · subst e
      rw [count_singleton_self] at hle
      exact absurd (Nat.le_of_succ_le_succ hle) (Nat.not_le_of_gt hpos)
    · rw [count_singleton, if_neg (fun h => e (eq_of_beq h))]
      rfl
  · exact count_append

theorem count_uids_foldl_waitInsert (w rest : List Task) (a : Nat)
    (hle : count a (uids w) + count a (uids rest) ≤ 1) :
    count a (uids (rest.foldl waitInsert w)) = count a (uids w) + count a (uids rest) := by
  induction rest generalizing w with
  | nil => rfl
  | cons t ts ih =>
    have hcons : count a (uids (t :: ts)) = count a [t.uid] + count a (uids ts) := count_append (l₁ := [t.uid])
    rw [hcons, ← Nat.add_assoc] at hle
    have hins := count_uids_waitInsert w t a (Nat.le_trans (Nat.le_add_right _ _) hle)
    rw [← hins] at hle
    rw [foldl_cons, ih _ hle, hins, hcons, Nat.add_assoc]

theorem bfStep_conserve (c : BFCfg) (execVal : Nat) (s : S) (op : Op) (a : Nat)
    (hle : count a (held s) + count a (newUids op) ≤ 1) :
    count a (fwdUids (bfStep c execVal s op).2.1) + count a (held (bfStep c execVal s op).1)
      = count a (held s) + count a (newUids op) := by
  have pass (s1 : S) (outs : List Out)
      (h : count a (fwdUids outs) + count a (held s1) = count a (held s) + count a (newUids op)) :
      count a (fwdUids (outs ++ (bfSchedule c s1).2)) + count a (held (bfSchedule c s1).1)
        = count a (held s) + count a (newUids op) := by
    rw [fwdUids_append, count_append, Nat.add_assoc, bfSchedule_conserve, h]
  cases op with
  | addPilots pids cores =>
    rw [bfStep, bfAddPilots]
    split
    · exact conserve_idle a rfl rfl
    · have hf := flushEarly_conserve s.early pids a
      generalize flushEarly s.early pids = r at hf ⊢
      obtain ⟨early', outs⟩ := r
      apply pass
      simp only [held, newUids, count_append, count_nil, Nat.add_zero]
      rw [Nat.add_left_comm, hf]
  | removePilots pids => exact rrStep_conserve s (.removePilots pids) a   -- both schedulers run `rrRemovePilots`
  | pilotState pid v =>
    rw [bfStep_pilotState]
    split
    · exact conserve_idle a rfl rfl
    · split
      · exact pass _ [] (conserve_idle a rfl rfl)
      · exact conserve_idle a rfl rfl
  | work ts =>
    have hw := workFilter_conserve s.pilots s.early ts a
    rw [bfStep, bfWork]
    generalize workFilter s.pilots s.early ts = r at hw ⊢
    obtain ⟨early', outs, rest⟩ := r
    simp only [held, newUids, count_append] at hle hw
    have hins := count_uids_foldl_waitInsert s.wait rest a (by omega)
    apply pass
    simp only [held, newUids, fwdUids_append, fwdUids_sched, nil_append, count_append, hins]
    omega
  | taskStates us =>
    simp only [bfStep]
    split
    · exact conserve_idle a rfl rfl
    · exact pass _ [] (conserve_idle a rfl rfl)
    · exact conserve_idle a rfl rfl

theorem bfRun_conserve (c : BFCfg) (execVal : Nat) (ops : List Op) (a : Nat) : ∀ (s : S),
    count a (held s) + count a (allNew ops) ≤ 1 →
    count a (fwdUids (bfRun c execVal s ops).2) + count a (held (bfRun c execVal s ops).1)
      = count a (held s) + count a (allNew ops) := by
  induction ops with
  | nil => intro s _; simp [bfRun, allNew]
  | cons op ops ih =>
    intro s hle
    rw [allNew, count_append] at hle
    have h1 := bfStep_conserve c execVal s op a (by omega)
    rw [bfRun_cons]
    exact conserve_append h1 (ih _ (by omega))

end RPVerif.TmgrSched
