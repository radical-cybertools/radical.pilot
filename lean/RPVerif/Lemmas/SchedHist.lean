import RPVerif.Lemmas.Sched
/-!
The node loop of `schedule_task`: one induction along it (`nodeLoop_run`) for any property of the slots collected;
`_iterate_nodes` yields every node at most once, so what the loop collects can be placed on the node map as it is
(`Placeable`).
-/
namespace RPVerif.Sched
open List

/-- node indices are unique (the resource manager numbers the nodes 0..n-1, C18) -/
def NodesWF (nodes : List NodeSt) : Prop := (nodes.map (·.index)).Nodup

/-! what a list of slots names (asks for) on the node with index `idx` -/

def coresOn (slots : List Slot) (idx : Nat) : List Nat := (slots.filter (fun sl => sl.node = idx)).flatMap (·.cores)

def gpusOn (slots : List Slot) (idx : Nat) : List Nat :=
  (slots.filter (fun sl => sl.node = idx)).flatMap (fun sl => sl.gpus.map (·.1))

def lfsOn (slots : List Slot) (idx : Nat) : Nat := ((slots.filter (fun sl => sl.node = idx)).map (·.lfs)).sum
def memOn (slots : List Slot) (idx : Nat) : Nat := ((slots.filter (fun sl => sl.node = idx)).map (·.mem)).sum

theorem coresOn_append (a b : List Slot) (idx : Nat) : coresOn (a ++ b) idx = coresOn a idx ++ coresOn b idx := by
  simp [coresOn, filter_append, flatMap_append]
theorem gpusOn_append (a b : List Slot) (idx : Nat) : gpusOn (a ++ b) idx = gpusOn a idx ++ gpusOn b idx := by
  simp [gpusOn, filter_append, flatMap_append]
theorem lfsOn_append (a b : List Slot) (idx : Nat) : lfsOn (a ++ b) idx = lfsOn a idx + lfsOn b idx := by
  simp [lfsOn, filter_append]
theorem memOn_append (a b : List Slot) (idx : Nat) : memOn (a ++ b) idx = memOn a idx + memOn b idx := by
  simp [memOn, filter_append]

theorem filter_node_append (alc new : List Slot) (j idx : Nat) (hold : ∀ sl ∈ alc, sl.node ≠ j)
    (hnew : ∀ sl ∈ new, sl.node = j) :
    (alc ++ new).filter (fun sl => sl.node = idx) = if idx = j then new else alc.filter (fun sl => sl.node = idx) := by
  rw [filter_append]
  by_cases h : idx = j
  · subst h
    rw [if_pos rfl, filter_eq_nil_iff.mpr (fun sl hs e => hold sl hs (of_decide_eq_true e)),
        filter_eq_self.mpr (fun sl hs => decide_eq_true (hnew sl hs)), nil_append]
  · rw [if_neg h, (filter_eq_nil_iff (l := new)).mpr (fun sl hs e => h ((of_decide_eq_true e).symm.trans (hnew sl hs))),
        append_nil]

/-- the slots can be placed on the node map as it is -/
structure Placeable (nodes : List NodeSt) (slots : List Slot) : Prop where
  onNode : ∀ sl ∈ slots, ∃ n ∈ nodes, n.index = sl.node
  nodup  : ∀ n ∈ nodes, (coresOn slots n.index).Nodup
  free   : ∀ n ∈ nodes, ∀ c ∈ coresOn slots n.index, n.cores[c]? = some Occ.free
  gfree  : ∀ n ∈ nodes, ∀ g ∈ gpusOn slots n.index, n.gpus[g]? = some Occ.free
  lfsFit : ∀ n ∈ nodes, ((lfsOn slots n.index : Nat) : Int) ≤ n.lfs
  memFit : ∀ n ∈ nodes, ((memOn slots n.index : Nat) : Int) ≤ n.mem

/-- what `Placeable` asks of one node `n` and the slots `sls` that lie on it -/
structure FitsNode (n : NodeSt) (sls : List Slot) : Prop where
  nodup  : (sls.flatMap (·.cores)).Nodup
  free   : ∀ c ∈ sls.flatMap (·.cores), n.cores[c]? = some Occ.free
  gfree  : ∀ g ∈ sls.flatMap (fun sl => sl.gpus.map (·.1)), n.gpus[g]? = some Occ.free
  lfsFit : (((sls.map (·.lfs)).sum : Nat) : Int) ≤ n.lfs
  memFit : (((sls.map (·.mem)).sum : Nat) : Int) ≤ n.mem

theorem placeable_iff (nodes : List NodeSt) (slots : List Slot) :
    Placeable nodes slots ↔ (∀ sl ∈ slots, ∃ n ∈ nodes, n.index = sl.node)
      ∧ ∀ n ∈ nodes, FitsNode n (slots.filter (fun sl => sl.node = n.index)) :=
  ⟨fun h => ⟨h.onNode, fun n hn => ⟨h.nodup n hn, h.free n hn, h.gfree n hn, h.lfsFit n hn, h.memFit n hn⟩⟩,
   fun ⟨hon, hfit⟩ =>
     { onNode := hon, nodup := fun n hn => (hfit n hn).nodup, free := fun n hn => (hfit n hn).free,
       gfree := fun n hn => (hfit n hn).gfree, lfsFit := fun n hn => (hfit n hn).lfsFit,
       memFit := fun n hn => (hfit n hn).memFit }⟩

/-- storage and memory of every node are non-negative (kept by the global invariant) -/
def NonNeg (nodes : List NodeSt) : Prop := ∀ n ∈ nodes, (0 : Int) ≤ n.lfs ∧ (0 : Int) ≤ n.mem

theorem placeable_nil (nodes : List NodeSt) (hnn : NonNeg nodes) : Placeable nodes [] :=
  (placeable_iff nodes []).mpr
    ⟨forall_mem_nil _, fun n hn => ⟨nodup_nil, forall_mem_nil _, forall_mem_nil _, (hnn n hn).1, (hnn n hn).2⟩⟩

theorem nodefit_gpu_free {n : NodeSt} {cps gpr lfs mem : Nat} {slots : List Slot} (hfit : NodeFit n cps gpr lfs mem slots)
    {p : Nat × Nat} (hp : p ∈ allGpus slots) : n.gpus[p.1]? = some Occ.free := by
  -- the share of `p` is positive
  have hpos : 0 < p.2 := by
    obtain ⟨sl, hsl, hps⟩ := mem_flatMap.mp hp
    obtain ⟨_, _, _, _, hw, hs, hz⟩ := hfit.shape sl hsl
    rcases Nat.lt_or_ge gpr 16 with hlt | hge
    · rcases Nat.eq_zero_or_pos gpr with h0 | h0
      · rw [hz h0] at hps; cases hps
      · obtain ⟨g, hg⟩ := hs ⟨h0, hlt⟩
        rw [hg, mem_singleton] at hps
        rw [hps]
        exact h0
    · rw [(hw hge).2.2 p hps]
      decide
  -- so its GPU carries a share, for which a BUSY GPU (counted as a whole one by `occVal`) would leave no room
  have hge := shareOf_ge_mem _ p hp
  obtain ⟨o, ho, hd, hle⟩ := hfit.gpus_fit p.1 (Nat.lt_of_lt_of_le hpos hge)
  rw [ho]
  cases o with
  | free => rfl
  | busy => exact absurd hle (by simp only [occVal]; omega)
  | down => exact absurd rfl hd

theorem nodefit_fitsNode {n : NodeSt} {cps gpr lfs mem : Nat} {slots : List Slot} (hfit : NodeFit n cps gpr lfs mem slots)
    (hl : (0 : Int) ≤ n.lfs) (hm : (0 : Int) ≤ n.mem) : FitsNode n slots where
  nodup := hfit.cores_inc.imp Nat.ne_of_lt
  free := hfit.cores_free
  gfree := by
    intro g hg
    obtain ⟨sl, hsl, hgs⟩ := mem_flatMap.mp hg
    obtain ⟨p, hp, rfl⟩ := mem_map.mp hgs
    exact nodefit_gpu_free hfit (mem_flatMap.mpr ⟨sl, hsl, hp⟩)
  -- every slot asks for `lfs`, and `lfs * slots.length` fits (`NodeFit.lfs_fit`) unless `lfs = 0`; likewise `mem`
  lfsFit := by
    rw [map_eq_replicate_iff.mpr (fun sl hs => (hfit.shape sl hs).2.2.1), sum_replicate_nat, Nat.mul_comm]
    by_cases hz : lfs = 0
    · rw [hz, Nat.zero_mul]; exact hl
    · exact hfit.lfs_fit hz
  memFit := by
    rw [map_eq_replicate_iff.mpr (fun sl hs => (hfit.shape sl hs).2.2.2.1), sum_replicate_nat, Nat.mul_comm]
    by_cases hz : mem = 0
    · rw [hz, Nat.zero_mul]; exact hm
    · exact hfit.mem_fit hz

theorem placeable_extend {nodes : List NodeSt} (hw : NodesWF nodes) {alc new : List Slot} {node : NodeSt}
    (hmem : node ∈ nodes) (hp : Placeable nodes alc) (hold : ∀ sl ∈ alc, sl.node ≠ node.index)
    (hnew : ∀ sl ∈ new, sl.node = node.index) (hfit : FitsNode node new) : Placeable nodes (alc ++ new) := by
  rw [placeable_iff] at hp ⊢
  refine ⟨forall_mem_append.mpr ⟨hp.1, fun sl hs => ⟨node, hmem, (hnew sl hs).symm⟩⟩, fun n hn => ?_⟩
  rw [filter_node_append alc new node.index n.index hold hnew]
  by_cases hi : n.index = node.index
  · rw [if_pos hi, ListAux.eq_of_nodup_map hw hn hmem hi]
    exact hfit
  · rw [if_neg hi]
    exact hp.2 n hn

/-- every slot collected so far lies on a node at one of the `k` positions looked at so far -/
def Visited (nodes : List NodeSt) (o0 k : Nat) (alc : List Slot) : Prop :=
  ∀ sl ∈ alc, ∃ j, j < k ∧ ∃ n, nodes[(o0 + j) % nodes.length]? = some n ∧ n.index = sl.node

theorem visited_nil (nodes : List NodeSt) (o0 k : Nat) : Visited nodes o0 k [] := forall_mem_nil _

theorem visited_mono {nodes : List NodeSt} {o0 k : Nat} {alc : List Slot} (h : Visited nodes o0 k alc) :
    Visited nodes o0 (k + 1) alc := fun sl hs =>
  let ⟨j, hj, rest⟩ := h sl hs
  ⟨j, Nat.lt_succ_of_lt hj, rest⟩

theorem visited_append {nodes : List NodeSt} {o0 k : Nat} {alc new : List Slot} {node : NodeSt}
    (h : Visited nodes o0 k alc) (hnode : nodes[(o0 + k) % nodes.length]? = some node)
    (hnew : ∀ sl ∈ new, sl.node = node.index) : Visited nodes o0 (k + 1) (alc ++ new) :=
  forall_mem_append.mpr
    ⟨visited_mono h, fun sl hs => ⟨k, Nat.lt_succ_self k, node, hnode, (hnew sl hs).symm⟩⟩

theorem visited_not_current {nodes : List NodeSt} (hw : NodesWF nodes) {o0 k : Nat} (hk : k < nodes.length)
    {alc : List Slot} {node : NodeSt} (hnode : nodes[(o0 + k) % nodes.length]? = some node)
    (hv : Visited nodes o0 k alc) : ∀ sl ∈ alc, sl.node ≠ node.index := by
  intro sl hs heq
  obtain ⟨j, hj, n, hn, hni⟩ := hv sl hs
  have hjl : (o0 + j) % nodes.length < (nodes.map (·.index)).length := by
    rw [length_map]; exact (List.getElem?_eq_some_iff.mp hn).1
  apply ListAux.add_mod_ne hj hk
  apply (getElem?_inj hjl hw).mp
  rw [getElem?_map, getElem?_map, hn, hnode]
  exact congrArg some (hni.trans heq)

/-- Induction along the node loop (a whole pass, from any `_node_offset`) for a property `P alc rem` of the slots
    collected and the number still missing.  The loop passes a node over (tags; nothing found in scattered mode), or
    throws the collection away (`hreset`, also the start: nothing found in continuous mode), or appends what
    `_find_resources` found on a node on which nothing was collected so far (`htake`; only instances that use this
    have to assume unique node indices). -/
theorem nodeLoop_run {c : Cfg} {nodes : List NodeSt} {r : Req} {cps spn req : Nat} {mpi : Bool}
    {colo : Option (List Nat)} {skip : List Nat} {o : Nat} (hnn : NonNeg nodes) (hcps : 0 < cps)
    (P : List Slot → Nat → Prop) (hreset : P [] req)
    (htake : ∀ alc rem node new, P alc rem → node ∈ nodes → (NodesWF nodes → ∀ sl ∈ alc, sl.node ≠ node.index) →
      coloSkip colo node.index = false → node.index ∉ skip →
      NodeFit node cps r.gpr r.lfs r.mem new → new.length ≤ rem → new.length ≤ spn →
      P (alc ++ new) (rem - new.length))
    {it' : IterSt}
    (h : nodeLoop c nodes r cps spn req mpi colo skip nodes.length { rem := req, offset := o } = .ok it') :
    P it'.alc it'.rem := by
  -- `count` nodes to come after `k` positions looked at, each at most once (`Visited`); a `_node_offset` beyond the
  -- list ends the loop at once, so the offset is tied to `k` only if it lies in the list
  have key : ∀ (count k : Nat) (it : IterSt), nodeLoop c nodes r cps spn req mpi colo skip count it = .ok it' →
      k + count ≤ nodes.length → (it.offset < nodes.length → it.offset = (o + k) % nodes.length) →
      Visited nodes o k it.alc → P it.alc it.rem → P it'.alc it'.rem := by
    intro count
    induction count with
    | zero =>
      intro k it h _ _ _ hP
      cases h
      exact hP
    | succ count ih =>
      intro k it h hk hoff hv hP
      have hk' : k + 1 + count ≤ nodes.length := by rw [Nat.add_right_comm]; exact hk
      have hklt : k < nodes.length := Nat.lt_of_lt_of_le (Nat.lt_add_of_pos_right (Nat.succ_pos count)) hk
      have hv' := visited_mono hv
      unfold nodeLoop at h
      cases hnode : nodes[it.offset]? with
      | none =>
        rw [hnode] at h
        cases h
        exact hP
      | some node =>
        rw [hnode] at h
        simp only at h      -- beta: the model binds `next` and `isLast` by `(fun x => ..) (..)`
        have hoff := hoff (List.getElem?_eq_some_iff.mp hnode).1
        have hnext : (it.offset + 1) % nodes.length = (o + (k + 1)) % nodes.length := by
          rw [hoff, Nat.mod_add_mod]; rfl
        rw [hoff] at hnode
        by_cases hcolo : coloSkip colo node.index = true
        · rw [if_pos hcolo] at h
          exact ih (k + 1) _ h hk' (fun _ => hnext) hv' hP
        rw [if_neg hcolo] at h
        by_cases htag : node.index ∈ skip
        · rw [if_pos htag] at h
          exact ih (k + 1) _ h hk' (fun _ => hnext) hv' hP
        rw [if_neg htag] at h
        cases hfr : findResources node (min it.rem spn) cps r.gpr r.lfs r.mem
            (if ¬ mpi = true then false else (it.isFirst || c.scattered || (it.isLast || decide (it.rem < spn)))) with
        | error e => rw [hfr] at h; cases h
        | ok res =>
          rw [hfr] at h
          simp only at h
          by_cases hemp : resEmpty res = true
          · rw [if_pos hemp] at h
            by_cases hsc : ¬ c.scattered = true
            · rw [if_pos hsc] at h
              exact ih (k + 1) _ h hk' (fun _ => hnext) (visited_nil nodes o (k + 1)) hreset
            · rw [if_neg hsc] at h
              exact ih (k + 1) _ h hk' (fun _ => hnext) hv' hP
          rw [if_neg hemp] at h
          cases res with
          | none => exact absurd rfl hemp
          | some new =>
            rw [show resList (some new) = new from rfl] at h
            have hmem : node ∈ nodes := mem_of_getElem? hnode
            obtain ⟨hfit, hlen, _⟩ := findResources_fit hcps
                                        (fun _ => (hnn node hmem).1) (fun _ => (hnn node hmem).2) hfr
            have hP' := htake it.alc it.rem node new hP hmem
                          (fun hw => visited_not_current hw hklt hnode hv)
                          (Bool.eq_false_iff.mpr hcolo) htag hfit
                          (Nat.le_trans hlen (Nat.min_le_left _ _)) (Nat.le_trans hlen (Nat.min_le_right _ _))
            by_cases hrem : it.rem - new.length = 0
            · rw [if_pos hrem] at h
              cases h
              exact hrem ▸ hP'
            · rw [if_neg hrem] at h
              exact ih (k + 1) _ h hk' (fun _ => hnext)
                (visited_append hv hnode (fun sl hs => (hfit.shape sl hs).1)) hP'
  exact key nodes.length 0 _ h (Nat.le_of_eq (Nat.zero_add _)) (fun ho => (Nat.mod_eq_of_lt ho).symm) (visited_nil nodes o 0)
    hreset

theorem nodeLoop_run_placeable (c : Cfg) (nodes : List NodeSt) (r : Req) (cps spn req : Nat) (mpi : Bool)
    (colo : Option (List Nat)) (skip : List Nat) (hw : NodesWF nodes) (hnn : NonNeg nodes) (hcps : 0 < cps) (o : Nat)
    (it' : IterSt) (h : nodeLoop c nodes r cps spn req mpi colo skip nodes.length { rem := req, offset := o } = .ok it') :
    Placeable nodes it'.alc := by
  refine nodeLoop_run hnn hcps (fun alc _ => Placeable nodes alc) (placeable_nil nodes hnn) ?_ h
  intro alc _ node new hP hmem hold _ _ hfit _ _
  exact placeable_extend hw hmem hP (hold hw) (fun sl hs => (hfit.shape sl hs).1)
    (nodefit_fitsNode hfit (hnn node hmem).1 (hnn node hmem).2)

theorem cpsOf_pos (r : Req) : 0 < cpsOf r := by
  unfold cpsOf
  split
  · exact Nat.one_pos
  · exact Nat.pos_of_ne_zero ‹_›

theorem finishTask_ok (s : SchedSt) (r : Req) (it : IterSt) (slots : List Slot)
    (h : (finishTask s r it).1 = .ok (some slots)) : it.rem = 0 ∧ it.alc = slots := by
  revert h
  fun_cases finishTask s r it with
  | case1 => intro h; cases h
  | case2 hrem | case3 hrem =>
    intro h
    cases h
    exact ⟨Nat.eq_zero_of_not_pos hrem, rfl⟩

theorem scheduleTask_ok (c : Cfg) (s : SchedSt) (r : Req) (slots : List Slot)
    (h : (scheduleTask c s r).1 = .ok (some slots)) :
    ∃ it, nodeLoop c s.nodes r (cpsOf r) (slotsPerNode c r (cpsOf r)) r.ranks.toNat (decide (r.ranks > 1))
            (coloOf s r) (skipOf s r) s.nodes.length { rem := r.ranks.toNat, offset := s.offset } = .ok it
      ∧ it.rem = 0 ∧ it.alc = slots ∧ scheduleTask c s r = finishTask s r it := by
  revert h
  fun_cases scheduleTask c s r with
  | case1 | case2 | case3 => intro h; cases h
  | case4 _ _ it hnl =>
    intro h
    obtain ⟨hrem, halc⟩ := finishTask_ok s r it slots h
    exact ⟨it, hnl, hrem, halc, rfl⟩

theorem scheduleTask_placeable (c : Cfg) (s : SchedSt) (r : Req) (slots : List Slot)
    (hw : NodesWF s.nodes) (hnn : NonNeg s.nodes) (h : (scheduleTask c s r).1 = .ok (some slots)) :
    Placeable s.nodes slots := by
  obtain ⟨it, hnl, _, rfl, _⟩ := scheduleTask_ok c s r slots h
  exact nodeLoop_run_placeable c s.nodes r _ _ _ _ _ _ hw hnn (cpsOf_pos r) s.offset it hnl

end RPVerif.Sched
