import RPVerif.Lemmas.TmgrSched
/-!
The usage figure of the backfilling scheduler (C12): `used` of a pilot is the cores of the tasks assigned to it minus
those of the tasks reported finished.  `cf` gives the cores of a task (ranks * cores_per_rank, fixed by the description):
submissions and state notifications carry that figure.
-/
namespace RPVerif.TmgrSched
open List

/-- an integer: it is subtracted from, like `used` -/
def sumc (cf : Nat → Nat) (l : List Nat) : Int := ((l.map cf).sum : Nat)

theorem sumc_append (cf : Nat → Nat) (a b : List Nat) : sumc cf (a ++ b) = sumc cf a + sumc cf b := by
  simp [sumc]

theorem sumc_single (cf : Nat → Nat) (u : Nat) : sumc cf [u] = cf u := by simp [sumc]

structure UsedInv (cf : Nat → Nat) (p : Pilot) : Prop where
  used  : p.used = sumc cf p.tasks - sumc cf p.done
  nodup : p.done.Nodup
  sub   : ∀ u ∈ p.done, u ∈ p.tasks

theorem usedInv_zero (cf : Nat → Nat) (p : Pilot) (h : UsedInv cf p) (hn : p.tasks.Nodup) (hall : ∀ u ∈ p.tasks, u ∈ p.done) :
    p.used = 0 := by
  have hperm : p.done.Perm p.tasks := by
    apply (perm_ext_iff_of_nodup h.nodup hn).mpr
    intro a; exact ⟨h.sub a, hall a⟩
  have : sumc cf p.done = sumc cf p.tasks := by
    unfold sumc
    rw [(hperm.map cf).sum_nat]
  rw [h.used, this]; omega

def AllUsed (cf : Nat → Nat) (ps : List Pilot) : Prop := ∀ p ∈ ps, UsedInv cf p

theorem allUsed_setPilot {cf : Nat → Nat} {ps : List Pilot} {p : Pilot} (h : AllUsed cf ps) (hp : UsedInv cf p) :
    AllUsed cf (setPilot ps p) :=
  fun q hq => (mem_setPilot hq).elim (fun e => e ▸ hp) (h q)

theorem allUsed_concat {cf : Nat → Nat} {ps : List Pilot} {p : Pilot} (h : AllUsed cf ps) (hp : UsedInv cf p) :
    AllUsed cf (ps ++ [p]) :=
  fun q hq => (mem_append.mp hq).elim (h q) (fun e => mem_singleton.mp e ▸ hp)

/-- the three equations hold by `rfl` when `q` is `{ p with .. }` naming other fields: hence the defaults, here and below -/
theorem allUsed_setPilot_keep {cf : Nat → Nat} {ps : List Pilot} {pid : Nat} {p q : Pilot} (h : AllUsed cf ps)
    (hf : findPilot ps pid = some p) (h1 : q.used = p.used := by rfl) (h2 : q.tasks = p.tasks := by rfl)
    (h3 : q.done = p.done := by rfl) : AllUsed cf (setPilot ps q) := by
  have hi := h p (findPilot_some hf).1
  exact allUsed_setPilot h ⟨by rw [h1, h2, h3]; exact hi.used, by rw [h3]; exact hi.nodup, by rw [h2, h3]; exact hi.sub⟩

theorem usedInv_fresh {cf : Nat → Nat} {p : Pilot} (h1 : p.used = 0 := by rfl) (h2 : p.tasks = [] := by rfl)
    (h3 : p.done = [] := by rfl) : UsedInv cf p :=
  ⟨by rw [h1, h2, h3]; rfl, by rw [h3]; exact nodup_nil, by rw [h3]; intro u hu; cases hu⟩

theorem touchPilot_allUsed {cf : Nat → Nat} {ps : List Pilot} (pid : Nat) (v : Option Nat) (h : AllUsed cf ps) :
    AllUsed cf (touchPilot ps pid v) := by
  unfold touchPilot
  split
  · next p hp => exact allUsed_setPilot_keep h hp
  · exact allUsed_concat h usedInv_fresh

theorem markAdded_allUsed {cf : Nat → Nat} (ps : List Pilot) (pids : List Nat) (h : AllUsed cf ps) :
    AllUsed cf (markAdded ps pids).1 := by
  fun_induction markAdded ps pids with
  | case1 | case2 => exact h
  | case3 ps pid rest p hp _ ih => exact ih (allUsed_setPilot_keep h hp)
  | case4 ps pid rest _ ih => exact ih (allUsed_concat h usedInv_fresh)

theorem markRemoved_allUsed {cf : Nat → Nat} (ps : List Pilot) (pids : List Nat) (h : AllUsed cf ps) :
    AllUsed cf (markRemoved ps pids).1 := by
  fun_induction markRemoved ps pids with
  | case1 | case2 | case4 => exact h
  | case3 ps pid rest p hp _ ih => exact ih (allUsed_setPilot_keep h hp)

theorem bfInitInfo_allUsed {cf : Nat → Nat} (c : BFCfg) (ps : List Pilot) (pids cores : List Nat) (h : AllUsed cf ps) :
    AllUsed cf (bfInitInfo c ps pids cores) := by
  fun_induction bfInitInfo c ps pids cores with
  | case1 | case4 => exact h
  | case2 ps pid rest co cs p _ ih => exact ih (allUsed_setPilot h usedInv_fresh)
  | case3 ps pid rest co cs _ ih => exact ih h

def TasksOK (cf : Nat → Nat) (ts : List Task) : Prop := ∀ t ∈ ts, t.cores = cf t.uid

theorem tasksOK_of_subset {cf : Nat → Nat} {ts ts' : List Task} (h : TasksOK cf ts) (hs : ts' ⊆ ts) : TasksOK cf ts' :=
  fun t ht => h t (hs ht)

theorem bfLoop_allUsed {cf : Nat → Nat} {ts : List Task} (hts : TasksOK cf ts) (ps : List Pilot) (pids : List Nat)
    (h : AllUsed cf ps) : AllUsed cf (bfLoop ps pids ts).1 := by
  refine bfLoop_pilots (AllUsed cf) ts ?_ ps pids h
  intro t ht pid ps p hf h
  have hi := h p (findPilot_some hf).1
  refine allUsed_setPilot h ⟨?_, hi.nodup, fun u hu => mem_append_left _ (hi.sub u hu)⟩
  show p.used + (t.cores : Int) = sumc cf (p.tasks ++ [t.uid]) - sumc cf p.done
  rw [sumc_append, sumc_single, hi.used, hts t ht]
  omega

structure BFInv (cf : Nat → Nat) (s : S) : Prop where
  pilots : AllUsed cf s.pilots
  wait   : TasksOK cf s.wait

theorem bfSchedule_inv {cf : Nat → Nat} (c : BFCfg) {s : S} (h : BFInv cf s) : BFInv cf (bfSchedule c s).1 := by
  rw [bfSchedule_eq]
  exact ⟨bfLoop_allUsed h.wait _ _ h.pilots, tasksOK_of_subset h.wait (bfLoop_sublist _ _ _).subset⟩

theorem foldl_waitInsert_tasksOK {cf : Nat → Nat} {l w : List Task} (hl : TasksOK cf l) (hw : TasksOK cf w) :
    TasksOK cf (l.foldl waitInsert w) :=
  foldlRecOn l waitInsert hw fun _ hb t ht x hx => (mem_waitInsert hx).elim (fun e => e ▸ hl t ht) (hb x)

/-- a state notification carries the task's cores -/
def NotesOK (cf : Nat → Nat) (us : List (Nat × Option Nat × Nat × Nat)) : Prop := ∀ n ∈ us, n.2.2.2 = cf n.1

theorem bfUpdateTasks_allUsed {cf : Nat → Nat} (execVal : Nat) {us : List (Nat × Option Nat × Nat × Nat)}
    (hus : NotesOK cf us) (ps : List Pilot) (r : Bool) (h : AllUsed cf ps) :
    AllUsed cf (bfUpdateTasks execVal ps us r).1 := by
  refine bfUpdateTasks_pilots (AllUsed cf) execVal us ?_ ps r h
  intro uid pid sv cores hn ps p hf hd ht h
  have hi := h p (findPilot_some hf).1
  have hcores : cores = cf uid := hus _ hn
  refine allUsed_setPilot h ⟨?_, ?_, ?_⟩
  · show p.used - (cores : Int) = sumc cf p.tasks - sumc cf (p.done ++ [uid])
    rw [sumc_append, sumc_single, hi.used, hcores]
    omega
  · -- `uid` was not in `done`
    refine nodup_append.mpr ⟨hi.nodup, pairwise_singleton _ uid, fun a ha b hb e => hd ?_⟩
    rw [← mem_singleton.mp hb, ← e]
    exact ha
  · intro u hu
    rcases mem_append.mp hu with hu | hu
    · exact hi.sub u hu
    · rw [mem_singleton.mp hu]
      exact ht

/-- the operations the environment feeds are consistent with the descriptions -/
def OpOK (cf : Nat → Nat) : Op → Prop
  | .work ts       => TasksOK cf ts
  | .taskStates us => NotesOK cf us
  | _              => True

theorem bfStep_inv {cf : Nat → Nat} (c : BFCfg) (execVal : Nat) {s : S} {op : Op} (h : BFInv cf s) (hop : OpOK cf op) :
    BFInv cf (bfStep c execVal s op).1 := by
  cases op with
  | addPilots pids cores =>
    have hm := markAdded_allUsed s.pilots pids h.pilots
    rw [bfStep, bfAddPilots]
    generalize markAdded s.pilots pids = r at hm ⊢
    obtain ⟨ps, _ | e⟩ := r
    · exact bfSchedule_inv c ⟨bfInitInfo_allUsed c _ pids cores hm, h.wait⟩
    · exact ⟨hm, h.wait⟩
  | removePilots pids =>
    have hm := markRemoved_allUsed s.pilots pids h.pilots
    rw [bfStep, rrRemovePilots]
    generalize markRemoved s.pilots pids = r at hm ⊢
    obtain ⟨ps, _ | e⟩ := r <;> exact ⟨hm, h.wait⟩
  | pilotState pid v =>
    have ht : BFInv cf { s with pilots := touchPilot s.pilots pid v } := ⟨touchPilot_allUsed pid v h.pilots, h.wait⟩
    rw [bfStep_pilotState]
    split
    · exact ht
    · split
      · exact bfSchedule_inv c ht
      · exact ht
  | work ts =>
    rw [bfStep, bfWork, workFilter_eq]
    exact bfSchedule_inv c ⟨h.pilots, foldl_waitInsert_tasksOK (tasksOK_of_subset hop filter_sublist.subset) h.wait⟩
  | taskStates us =>
    have hu := bfUpdateTasks_allUsed execVal hop s.pilots false h.pilots
    rw [bfStep]
    generalize bfUpdateTasks execVal s.pilots us false = r at hu ⊢
    obtain ⟨ps, b, _ | e⟩ := r
    · cases b
      · exact ⟨hu, h.wait⟩
      · exact bfSchedule_inv c ⟨hu, h.wait⟩
    · exact ⟨hu, h.wait⟩

theorem bfRun_inv (cf : Nat → Nat) (c : BFCfg) (execVal : Nat) (ops : List Op) (hops : ∀ op ∈ ops, OpOK cf op)
    {s : S} (h : BFInv cf s) : BFInv cf (bfRun c execVal s ops).1 := by
  induction ops generalizing s with
  | nil => exact h
  | cons op ops ih =>
    rw [bfRun_cons]
    exact ih (fun o ho => hops o (mem_cons_of_mem _ ho)) (bfStep_inv c execVal h (hops op mem_cons_self))

end RPVerif.TmgrSched
