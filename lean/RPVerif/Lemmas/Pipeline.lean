import RPVerif.Lemmas.States
import RPVerif.Model.Pipeline

namespace RPVerif.Pipeline
open List RPVerif.States

theorem targetOf_eq_done {e : Exec} : targetOf e = .done ↔ e = .exit 0 := by
  cases e with
  | exit n => cases n <;> simp [targetOf]
  | _ => simp [targetOf]

theorem targetOf_eq_canceled {e : Exec} : targetOf e = .canceled ↔ e = .canceled := by
  cases e with
  | exit n => cases n <;> simp [targetOf]
  | _ => simp [targetOf]

theorem targetOf_eq_failed {e : Exec} :
    targetOf e = .failed ↔ e = .noLauncher ∨ e = .launchError ∨ ∃ n, n ≠ 0 ∧ e = .exit n := by
  cases e with
  | exit n => cases n <;> simp [targetOf]
  | _ => simp [targetOf]

theorem targetOf_isFinal (e : Exec) : (targetOf e).isFinal = true := by
  cases e with
  | exit n => cases n <;> rfl
  | _ => rfl

theorem staged_of_exit_zero {p : Plan} (h : p.exec = .exit 0) : staged p = true := by
  simp [staged, h, targetOf]

/-- the non-final states a task is published in on its way, in order (state numbers of Gen/States.lean; 8 and 9,
    AGENT_SCHEDULING and AGENT_EXECUTING_PENDING, belong to the agent scheduler, which this model passes through) -/
def wayStates : List St := [.nf 4, .nf 5, .nf 6, .nf 7, .nf 10, .nf 11, .nf 12, .nf 13, .nf 14]

/-- 15 is the number of non-final task states (`C06.N`) -/
theorem wayStates_nonfinal : ∀ s ∈ wayStates, s.isFinal = false ∧ s.WF 15 := by decide

/-- **the two ways the journey of a task ends.**  A step cannot be carried out: the states on the way up to it are
    published, then FAILED once, and an exception is recorded.  Or every step is carried out: all states on the way, then the
    state the end of the execution calls for - twice when the client stages output -, and an exception iff that state is
    FAILED.  (The conditions are spelt the way `C05.reached` and `C05.stageFault` unfold.) -/
theorem run_cases (p : Plan) :
    ((¬ (p.tmgrInFails = false ∧ p.agentInFails = false) ∨ p.exec = .noLauncher ∨ p.exec = .launchError
        ∨ staged p = true ∧ (p.agentOutFails = true ∨ p.tmgrOutFails = true))
      ∧ final p = .failed ∧ (run p).exception = true
      ∧ ∃ n, (run p).emits = wayStates.take n ++ [.failed])
    ∨ ((p.tmgrInFails = false ∧ p.agentInFails = false) ∧ p.exec ≠ .noLauncher ∧ p.exec ≠ .launchError
        ∧ ¬ (staged p = true ∧ (p.agentOutFails = true ∨ p.tmgrOutFails = true))
      ∧ final p = targetOf p.exec ∧ (run p).exception = decide (targetOf p.exec = .failed)
      ∧ ∃ k, (run p).emits = wayStates ++ replicate (k + 1) (targetOf p.exec)) := by
  unfold final
  generalize hr : run p = r
  unfold run at hr
  -- in each failing branch `r` is a literal; the numeral counts the `wayStates` published before the failing step
  cases h1 : p.tmgrInFails
  case true =>
    rw [h1, if_pos rfl] at hr
    subst hr
    exact .inl ⟨.inl (fun h => nomatch h.1), rfl, rfl, 1, rfl⟩
  cases h2 : p.agentInFails
  case true =>
    rw [h1, if_neg nofun, h2, if_pos rfl] at hr
    subst hr
    exact .inl ⟨.inl (fun h => nomatch h.2), rfl, rfl, 3, rfl⟩
  rw [h1, if_neg nofun, h2, if_neg nofun] at hr
  split at hr
  · rename_i h
    subst hr
    exact .inl ⟨.inr (.inl h), rfl, rfl, 5, rfl⟩
  · rename_i h
    subst hr
    exact .inl ⟨.inr (.inr (.inl h)), rfl, rfl, 5, rfl⟩
  rename_i hn hl
  dsimp only at hr
  by_cases ha : staged p = true ∧ p.agentOutFails = true
  · rw [if_pos ha] at hr
    subst hr
    exact .inl ⟨.inr (.inr (.inr ⟨ha.1, .inl ha.2⟩)), rfl, rfl, 7, rfl⟩
  rw [if_neg ha] at hr
  by_cases ht : staged p = true ∧ p.tmgrOutFails = true
  · rw [if_pos ht] at hr
    subst hr
    exact .inl ⟨.inr (.inr (.inr ⟨ht.1, .inr ht.2⟩)), rfl, rfl, 9, rfl⟩
  rw [if_neg ht] at hr
  subst hr
  have hs : ¬ (staged p = true ∧ (p.agentOutFails = true ∨ p.tmgrOutFails = true)) :=
    fun h => h.2.elim (fun x => ha ⟨h.1, x⟩) (fun x => ht ⟨h.1, x⟩)
  refine .inr ⟨⟨rfl, rfl⟩, hn, hl, hs, ?_, ?_, if staged p = true ∧ p.hasTmgrOut = true then 1 else 0, ?_⟩
  · dsimp only
    split <;> rfl
  · cases he : p.exec with
    | noLauncher => exact absurd he hn
    | launchError => exact absurd he hl
    | canceled => rfl
    | exit n => cases n <;> rfl
  · dsimp only
    split <;> rfl

theorem run_exitCode {p : Plan} (h1 : p.tmgrInFails = false) (h2 : p.agentInFails = false) {n : Nat}
    (he : p.exec = .exit n) : (run p).exitCode = some n := by
  unfold run
  rw [h1, if_neg nofun, h2, if_neg nofun, he]
  simp only [apply_ite Result.exitCode, ite_self]

end RPVerif.Pipeline
