import RPVerif.Model.TmgrSched
import RPVerif.Lemmas.ListAux
namespace RPVerif.TmgrSched
open List

def fwdUids (outs : List Out) : List Nat :=
  outs.filterMap (fun o => match o with | .fwd u _ => some u | _ => none)

def fwdPids (outs : List Out) : List Nat :=
  outs.filterMap (fun o => match o with | .fwd _ p => some p | _ => none)

def uids (ts : List Task) : List Nat := ts.map (·.uid)
def earlyUids (e : List (Nat × Task)) : List Nat := e.map (·.2.uid)

/-- uids the scheduler is holding back -/
def held (s : S) : List Nat := uids s.wait ++ earlyUids s.early

def newUids : Op → List Nat
  | .work ts => uids ts
  | _        => []

def allNew : List Op → List Nat
  | []        => []
  | op :: ops => newUids op ++ allNew ops

@[simp] theorem fwdUids_nil : fwdUids [] = [] := rfl
@[simp] theorem fwdUids_append (a b : List Out) : fwdUids (a ++ b) = fwdUids a ++ fwdUids b :=
  filterMap_append
@[simp] theorem fwdUids_cons_fwd (u p : Nat) (l : List Out) : fwdUids (Out.fwd u p :: l) = u :: fwdUids l := rfl

@[simp] theorem fwdPids_append (a b : List Out) : fwdPids (a ++ b) = fwdPids a ++ fwdPids b :=
  filterMap_append

@[simp] theorem uids_nil : uids [] = [] := rfl
@[simp] theorem uids_cons (t : Task) (ts : List Task) : uids (t :: ts) = t.uid :: uids ts := rfl

theorem fwdUids_sched (ts : List Task) : fwdUids (ts.map (fun t => Out.sched t.uid)) = [] := by
  induction ts with
  | nil => rfl
  | cons t ts ih => exact ih

theorem fwdUids_map_fwd {α : Type} (f g : α → Nat) (l : List α) :
    fwdUids (l.map fun x => Out.fwd (f x) (g x)) = l.map f := by
  induction l with
  | nil => rfl
  | cons x xs ih => exact congrArg (f x :: ·) ih

theorem findPilot_some {ps : List Pilot} {pid : Nat} {p : Pilot} (h : findPilot ps pid = some p) :
    p ∈ ps ∧ p.pid = pid :=
  ⟨mem_of_find?_eq_some h, by simpa using find?_some h⟩

theorem findPilot_eq_none {ps : List Pilot} {pid : Nat} :
    findPilot ps pid = none ↔ ps.any (fun q => q.pid = pid) = false := by
  simp [findPilot]

theorem findPilot_setPilot (ps : List Pilot) (p' : Pilot) (q : Nat) :
    findPilot (setPilot ps p') q = if q = p'.pid then some p' else findPilot ps q :=
  ListAux.find?_upsert Pilot.pid ps p' q

theorem mem_setPilot {ps : List Pilot} {p q : Pilot} (h : q ∈ setPilot ps p) : q = p ∨ q ∈ ps := ListAux.mem_upsert Pilot.pid h

theorem mem_waitInsert {w : List Task} {t x : Task} (h : x ∈ waitInsert w t) : x = t ∨ x ∈ w := ListAux.mem_upsert Task.uid h

theorem stateOf_setPilot (ps : List Pilot) (p' : Pilot) (q : Nat) :
    stateOf (setPilot ps p') q = if q = p'.pid then p'.state else stateOf ps q := by
  unfold stateOf
  rw [findPilot_setPilot]
  by_cases hq : q = p'.pid
  · rw [if_pos hq, if_pos hq]
  · rw [if_neg hq, if_neg hq]

/-- `hp`, `hs` hold by `rfl` when `p'` is `{ p with .. }` naming other fields: hence the defaults -/
theorem stateOf_setPilot_of_state_eq {ps : List Pilot} {pid : Nat} {p p' : Pilot} (hf : findPilot ps pid = some p) (q : Nat)
    (hp : p'.pid = p.pid := by rfl) (hs : p'.state = p.state := by rfl) :
    stateOf (setPilot ps p') q = stateOf ps q := by
  rw [stateOf_setPilot]
  split
  · next hq => rw [hq, hp, (findPilot_some hf).2, stateOf, hf, hs]
  · rfl

theorem stateOf_touchPilot (ps : List Pilot) (pid : Nat) (v : Option Nat) (q : Nat) :
    stateOf (touchPilot ps pid v) q = if q = pid then v else stateOf ps q := by
  unfold touchPilot
  split
  · next p hp => rw [stateOf_setPilot, (findPilot_some hp).2]
  · next hp =>
    have : ps ++ [{ pid := pid, role := .none, state := v, known := false }]
        = setPilot ps { pid := pid, role := .none, state := v, known := false } := by
      rw [setPilot, if_neg]
      rw [findPilot_eq_none.mp hp]
      exact Bool.false_ne_true
    rw [this, stateOf_setPilot]

theorem erasePids_sublist (cur l : List Nat) : (erasePids cur l).1.Sublist cur := by
  fun_induction erasePids cur l with
  | case1 => exact Sublist.refl _
  | case2 cur y ys _ ih => exact ih.trans erase_sublist
  | case3 => exact Sublist.refl _

theorem erasePids_gone {cur l : List Nat} (hc : cur.Nodup) (hok : (erasePids cur l).2 = none) :
    ∀ x ∈ l, x ∉ (erasePids cur l).1 := by
  fun_induction erasePids cur l with
  | case1 => intro x hx; cases hx
  | case2 cur y ys _ ih =>
    intro x hx hin
    rcases mem_cons.mp hx with rfl | hx
    · exact (hc.mem_erase_iff.mp ((erasePids_sublist _ ys).subset hin)).1 rfl
    · exact ih (hc.erase y) hok x hx hin
  | case3 => cases hok

theorem workFilter_eq (ps : List Pilot) (e : List (Nat × Task)) (ts : List Task) :
    workFilter ps e ts
      = (e ++ (ts.filter fun t => t.pilot.any fun pid => !isKnown ps pid).map (fun t => (t.pilot.getD 0, t)),
         (ts.filter fun t => t.pilot.any (isKnown ps)).map (fun t => Out.fwd t.uid (t.pilot.getD 0)),
         ts.filter (·.pilot.isNone)) := by
  induction ts generalizing e with
  | nil => simp [workFilter]
  | cons t ts ih =>
    rw [workFilter]
    cases hp : t.pilot with
    | none => simp [ih, hp]
    | some pid => cases hk : isKnown ps pid <;> simp [ih, hp, hk]

/-! ### conservation, uid by uid: forwarded + still held = held before + handed in -/

theorem rrAssign_uids (pids : List Nat) (idx : Nat) (ts : List Task) :
    fwdUids (rrAssign pids idx ts).2 = uids ts := by
  induction ts generalizing idx with
  | nil => rfl
  | cons t ts ih => exact congrArg (t.uid :: ·) (ih _)

theorem conserve_append {a : Nat} {held0 held1 held2 new1 new2 : List Nat} {o1 o2 : List Out}
    (e1 : count a (fwdUids o1) + count a held1 = count a held0 + count a new1)
    (e2 : count a (fwdUids o2) + count a held2 = count a held1 + count a new2) :
    count a (fwdUids (o1 ++ o2)) + count a held2 = count a held0 + count a (new1 ++ new2) := by
  rw [fwdUids_append, count_append, count_append, Nat.add_assoc, e2, ← Nat.add_assoc, e1, Nat.add_assoc]

/-- the empty lists are spelt out so that the statement unifies with the cases of `rrStep_conserve` as they stand -/
theorem conserve_idle {s s' : S} (a : Nat) (hw : s'.wait = s.wait) (he : s'.early = s.early) :
    count a (fwdUids []) + count a (held s') = count a (held s) + count a [] := by
  simp [held, hw, he]

theorem rrSchedule_conserve (s : S) (ts : List Task) (a : Nat) :
    count a (fwdUids (rrSchedule s ts).2) + count a (held (rrSchedule s ts).1)
      = count a (held s) + count a (uids ts) := by
  unfold rrSchedule
  split
  · simp only [held, uids, map_append, count_append, fwdUids_nil, count_nil, Nat.zero_add]
    exact Nat.add_right_comm _ _ _
  · simp only [rrAssign_uids]
    exact Nat.add_comm _ _

theorem flushEarly_conserve (e : List (Nat × Task)) (pids : List Nat) (a : Nat) :
    count a (fwdUids (flushEarly e pids).2) + count a (earlyUids (flushEarly e pids).1)
      = count a (earlyUids e) := by
  induction pids generalizing e with
  | nil => simp [flushEarly]
  | cons pid rest ih =>
    have h1 := ih (e.filter (fun x => x.1 ≠ pid))
    have h2 := ListAux.count_map_filter_add (·.2.uid) (fun x => decide (x.1 = pid)) e a
    simp only [earlyUids, decide_not] at h1 h2
    simp only [flushEarly, earlyUids, fwdUids_append, count_append, fwdUids_map_fwd, decide_not]
    rw [Nat.add_assoc, h1, h2]

theorem workFilter_conserve (ps : List Pilot) (e : List (Nat × Task)) (ts : List Task) (a : Nat) :
    count a (fwdUids (workFilter ps e ts).2.1) + count a (earlyUids (workFilter ps e ts).1)
        + count a (uids (workFilter ps e ts).2.2)
      = count a (earlyUids e) + count a (uids ts) := by
  fun_induction workFilter ps e ts with
  | case1 e => simp
  | case2 e t ts pid _ _ e' outs rest hw ih =>
    rw [hw] at ih
    simp only [fwdUids_cons_fwd, uids_cons, count_cons] at ih ⊢
    omega
  | case3 e t ts pid _ _ e' outs rest hw ih =>
    rw [hw] at ih
    simp only [earlyUids, map_append, map_cons, map_nil, count_append, uids_cons, count_cons, count_nil] at ih ⊢
    omega
  | case4 e t ts _ e' outs rest hw ih =>
    rw [hw] at ih
    simp only [uids_cons, count_cons] at ih ⊢
    omega

theorem rrStep_conserve (s : S) (op : Op) (a : Nat) :
    count a (fwdUids (rrStep s op).2.1) + count a (held (rrStep s op).1)
      = count a (held s) + count a (newUids op) := by
  have place (s1 : S) (outs : List Out) (ts : List Task)
      (h : count a (fwdUids outs) + (count a (held s1) + count a (uids ts)) = count a (held s) + count a (newUids op)) :
      count a (fwdUids (outs ++ (rrSchedule s1 ts).2)) + count a (held (rrSchedule s1 ts).1)
        = count a (held s) + count a (newUids op) := by
    rw [fwdUids_append, count_append, Nat.add_assoc, rrSchedule_conserve, h]
  cases op with
  | addPilots pids cores =>
    rw [rrStep, rrAddPilots]
    split
    · exact conserve_idle a rfl rfl
    · have hf := flushEarly_conserve s.early pids a
      generalize flushEarly s.early pids = r at hf ⊢
      obtain ⟨early', outs⟩ := r
      dsimp only at hf ⊢
      split
      · next hw =>
        simp only [held, hw, uids_nil, nil_append]
        exact hf
      · apply place
        simp only [held, newUids, uids_nil, nil_append, count_append, count_nil, Nat.add_zero]
        rw [← Nat.add_assoc, hf, Nat.add_comm]
  | removePilots pids =>
    rw [rrStep, rrRemovePilots]
    split
    all_goals exact conserve_idle a rfl rfl
  | pilotState | taskStates => exact conserve_idle a rfl rfl
  | work ts =>
    have hf := workFilter_conserve s.pilots s.early ts a
    rw [rrStep, rrWork]
    generalize workFilter s.pilots s.early ts = r at hf ⊢
    obtain ⟨early', outs, rest⟩ := r
    dsimp only at hf ⊢
    split
    · next hr =>
      subst hr
      simp only [held, newUids, fwdUids_append, fwdUids_sched, nil_append, count_append, uids_nil, count_nil,
        Nat.add_zero] at hf ⊢
      rw [Nat.add_left_comm, hf, Nat.add_assoc]
    · apply place
      simp only [held, newUids, fwdUids_append, fwdUids_sched, nil_append, count_append]
      omega

theorem rrRun_cons (s : S) (op : Op) (ops : List Op) :
    rrRun s (op :: ops) = ((rrRun (rrStep s op).1 ops).1, (rrStep s op).2.1 ++ (rrRun (rrStep s op).1 ops).2) := rfl

theorem rrRun_conserve (ops : List Op) (s : S) (a : Nat) :
    count a (fwdUids (rrRun s ops).2) + count a (held (rrRun s ops).1)
      = count a (held s) + count a (allNew ops) := by
  induction ops generalizing s with
  | nil => simp [rrRun, allNew]
  | cons op ops ih =>
    rw [rrRun_cons]
    exact conserve_append (rrStep_conserve s op a) (ih _)

theorem bfPlace_some {ps : List Pilot} {t : Task} {pids : List Nat} {ps' : List Pilot} {pid : Nat} {full : Bool}
    (h : bfPlace ps t pids = some (ps', pid, full)) :
    pid ∈ pids ∧ ∃ p, findPilot ps pid = some p ∧ p.used ≤ (p.hwm : Int)
      ∧ ps' = setPilot ps { p with tasks := p.tasks ++ [t.uid], used := p.used + t.cores } := by
  fun_induction bfPlace ps t pids with
  | case1 => cases h
  | case2 x rest hf ih | case4 x rest p hf hu ih =>
    obtain ⟨hm, r⟩ := ih h
    exact ⟨mem_cons_of_mem _ hm, r⟩
  | case3 x rest p hf hu =>
    cases h
    exact ⟨mem_cons_self, p, hf, hu, rfl⟩

theorem bfLoop_cons_none {ps : List Pilot} {t : Task} {pids : List Nat} (h : bfPlace ps t pids = none) (ts : List Task) :
    bfLoop ps pids (t :: ts) = ((bfLoop ps pids ts).1, t :: (bfLoop ps pids ts).2.1, (bfLoop ps pids ts).2.2) := by
  rw [bfLoop, h]
  split <;> rfl

theorem bfLoop_cons_some {ps : List Pilot} {t : Task} {pids : List Nat} {ps1 : List Pilot} {pid : Nat} {full : Bool}
    (h : bfPlace ps t pids = some (ps1, pid, full)) (ts : List Task) :
    bfLoop ps pids (t :: ts)
      = ((bfLoop ps1 (if full then pids.erase pid else pids) ts).1,
         (bfLoop ps1 (if full then pids.erase pid else pids) ts).2.1,
         Out.fwd t.uid pid :: (bfLoop ps1 (if full then pids.erase pid else pids) ts).2.2) := by
  rw [bfLoop, h, if_neg]
  rintro rfl
  cases h

theorem bfLoop_fwdPids (ps : List Pilot) (pids : List Nat) (ts : List Task) :
    ∀ p ∈ fwdPids (bfLoop ps pids ts).2.2, p ∈ pids := by
  induction ts generalizing ps pids with
  | nil => intro p hp; cases hp
  | cons t ts ih =>
    cases hb : bfPlace ps t pids with
    | none => rw [bfLoop_cons_none hb]; exact ih ps pids
    | some r =>
      obtain ⟨ps1, pid, full⟩ := r
      rw [bfLoop_cons_some hb]
      intro p hp
      rcases mem_cons.mp hp with rfl | hp
      · exact (bfPlace_some hb).1
      · have := ih _ _ p hp
        split at this
        · exact mem_of_mem_erase this
        · exact this

theorem bfLoop_sublist (ps : List Pilot) (pids : List Nat) (ts : List Task) : (bfLoop ps pids ts).2.1.Sublist ts := by
  induction ts generalizing ps pids with
  | nil => exact .slnil
  | cons t ts ih =>
    cases hb : bfPlace ps t pids with
    | none => rw [bfLoop_cons_none hb]; exact (ih ps pids).cons_cons t
    | some r => rw [bfLoop_cons_some hb]; exact (ih _ _).cons t

/-- the only change a pass makes to the pilot table: an entry takes a pool task -/
theorem bfLoop_pilots (P : List Pilot → Prop) (ts : List Task)
    (hplace : ∀ t ∈ ts, ∀ pid ps p, findPilot ps pid = some p → P ps →
      P (setPilot ps { p with tasks := p.tasks ++ [t.uid], used := p.used + t.cores }))
    (ps : List Pilot) (pids : List Nat) (h : P ps) : P (bfLoop ps pids ts).1 := by
  induction ts generalizing ps pids with
  | nil => exact h
  | cons t ts ih =>
    have ih := ih fun t' ht' => hplace t' (mem_cons_of_mem _ ht')
    cases hb : bfPlace ps t pids with
    | none => rw [bfLoop_cons_none hb]; exact ih ps pids h
    | some r =>
      obtain ⟨_, p, hf, _, hr⟩ := bfPlace_some hb
      rw [bfLoop_cons_some hb, hr]
      exact ih _ _ (hplace t mem_cons_self _ ps p hf h)

theorem bfLoop_nil_pids (ps : List Pilot) (ts : List Task) : bfLoop ps [] ts = (ps, ts, []) := by
  induction ts with
  | nil => rfl
  | cons t ts ih => rw [bfLoop_cons_none rfl, ih]

/-- the two emptiness tests of `_schedule_tasks` are shortcuts: without eligible pilots the loop changes nothing -/
theorem bfSchedule_eq (c : BFCfg) (s : S) :
    bfSchedule c s = ({ s with pilots := (bfLoop s.pilots (eligiblePids c s) s.wait).1,
                               wait := (bfLoop s.pilots (eligiblePids c s) s.wait).2.1 },
                      (bfLoop s.pilots (eligiblePids c s) s.wait).2.2) := by
  unfold bfSchedule
  split
  · next h =>
    have he : eligiblePids c s = [] := by rw [eligiblePids, h, filter_nil]
    rw [he, bfLoop_nil_pids]
  · split
    · next h => rw [h, bfLoop_nil_pids]
    · rfl

theorem inWindow_iff (c : BFCfg) (v : Option Nat) :
    inWindow c v = true ↔ ∃ x, v = some x ∧ c.startVal ≤ x ∧ x ≤ c.stopVal := by
  cases v <;> simp [inWindow]

theorem bfEligible_iff (c : BFCfg) (p : Pilot) :
    bfEligible c p = true ↔ p.role = .added ∧ inWindow c p.state = true ∧ p.used < (p.hwm : Int) := by
  simp only [bfEligible, inWindow, Bool.and_eq_true, decide_eq_true_eq, and_assoc]

theorem mem_eligiblePids {c : BFCfg} {s : S} {pid : Nat} :
    pid ∈ eligiblePids c s ↔ pid ∈ s.pids ∧ ∃ p, findPilot s.pilots pid = some p ∧ bfEligible c p = true := by
  unfold eligiblePids
  rw [mem_filter]
  cases findPilot s.pilots pid <;> simp

theorem bfSchedule_fwdPids (c : BFCfg) (s : S) : ∀ p ∈ fwdPids (bfSchedule c s).2, p ∈ eligiblePids c s := by
  rw [bfSchedule_eq]
  exact bfLoop_fwdPids s.pilots (eligiblePids c s) s.wait

theorem bfSchedule_window (c : BFCfg) (s : S) {p : Nat} (hp : p ∈ fwdPids (bfSchedule c s).2) :
    inWindow c (stateOf s.pilots p) = true := by
  obtain ⟨_, pl, hf, he⟩ := mem_eligiblePids.mp (bfSchedule_fwdPids c s p hp)
  rw [stateOf, hf]
  exact ((bfEligible_iff c pl).mp he).2.1

/-- the only change task notifications make to the table: a task of the pilot, not yet done, is entered as done -/
theorem bfUpdateTasks_pilots (P : List Pilot → Prop) (execVal : Nat) (us : List (Nat × Option Nat × Nat × Nat))
    (hdone : ∀ uid pid sv cores, (uid, some pid, sv, cores) ∈ us → ∀ ps p, findPilot ps pid = some p →
      uid ∉ p.done → uid ∈ p.tasks → P ps →
      P (setPilot ps { p with done := p.done ++ [uid], used := p.used - cores }))
    (ps : List Pilot) (r : Bool) (h : P ps) : P (bfUpdateTasks execVal ps us r).1 := by
  fun_induction bfUpdateTasks execVal ps us r with
  | case1 => exact h
  | case2 | case3 | case4 | case5 | case6 =>
    rename_i ih
    exact ih (fun uid pid sv cores hn => hdone uid pid sv cores (mem_cons_of_mem _ hn)) h
  | case7 ps uid sv cores us r pid p hfound hdoneYet hpast hassigned hneg =>
    exact hdone uid pid sv cores mem_cons_self ps p hfound hdoneYet (Decidable.not_not.mp hassigned) h
  | case8 ps uid sv cores us r pid p hfound hdoneYet hpast hassigned hnonneg ih =>
    exact ih (fun uid pid sv cores hn => hdone uid pid sv cores (mem_cons_of_mem _ hn))
      (hdone uid pid sv cores mem_cons_self ps p hfound hdoneYet (Decidable.not_not.mp hassigned) h)

/-- the inline tests of the model read as `stateOf` and `inWindow` -/
theorem bfStep_pilotState (c : BFCfg) (execVal : Nat) (s : S) (pid : Nat) (v : Option Nat) :
    bfStep c execVal s (.pilotState pid v)
      = if stateOf s.pilots pid = v then ({ s with pilots := touchPilot s.pilots pid v }, [], none)
        else if inWindow c v = true then
          ((bfSchedule c { s with pilots := touchPilot s.pilots pid v }).1,
           (bfSchedule c { s with pilots := touchPilot s.pilots pid v }).2, none)
        else ({ s with pilots := touchPilot s.pilots pid v }, [], none) := rfl

theorem bfRun_cons (c : BFCfg) (execVal : Nat) (s : S) (op : Op) (ops : List Op) :
    bfRun c execVal s (op :: ops)
      = ((bfRun c execVal (bfStep c execVal s op).1 ops).1,
         (bfStep c execVal s op).2.1 ++ (bfRun c execVal (bfStep c execVal s op).1 ops).2) := rfl

end RPVerif.TmgrSched
