import RPVerif.Model.Sched
/-!
`ru.lazy_bisect` classifies every element exactly once (C04), whatever the check (`_try_allocation`) answers.

The loop keeps a *frontier*: every index at or above it is classified, and no bad or failed index lies below it.  Every
pass settles one index below it; then the frontier falls, or the last good index comes closer to it.  So
`mu = frontier * (n + 2) + gap` falls; it starts at `n * (n + 2) + 1`, below the fuel `(n + 2)²` the model gives the loop,
and when the loop stops the frontier is 0.
-/
namespace RPVerif.Sched
open List

def cnt (b : BisSt) (i : Nat) : Nat := count i b.good + count i b.bad + count i b.fail

def bisProbe (c : Cfg) (data : List Req) (idx : Nat) (b : BisSt) (s : SchedSt) : Bool × BisSt × SchedSt :=
  if idx ∈ b.good then (true, b, s) else if idx ∈ b.bad then (false, b, s) else bisCheck c data idx b s

def markNext (idx : Nat) (ret : Bool) (b1 : BisSt) : BisSt :=
  match ret with
  | true  => { b1 with lastGood := some idx }
  | false => { b1 with lastBad := some idx }

/-- `og`: the last good index, if it lies below `bad` -/
def markBisect (og : Option Nat) (bad idx : Nat) (ret : Bool) (b1 : BisSt) : BisSt :=
  match ret with
  | true =>
    if bad < idx then { b1 with lastGood := none, lastBad := some bad }
    else if bad - idx = 1 then { b1 with lastGood := some idx, lastBad := none }
    else { b1 with lastGood := some idx, lastBad := some bad }
  | false => { markSkipped b1 bad idx with lastBad := some idx, lastGood := resetGood og idx }

/-- one pass of the `while True` loop: `none` = `break` -/
def bisNext (c : Cfg) (data : List Req) (b : BisSt) (s : SchedSt) : Option (BisSt × SchedSt) :=
  match b.lastBad with
  | some bad =>
    if bad = 0 then none
    else
      match bisProbe c data (bisIdx (resetGood b.lastGood bad) bad) b s with
      | (ret, b1, s1) =>
        some (markBisect (resetGood b.lastGood bad) bad (bisIdx (resetGood b.lastGood bad) bad) ret b1, s1)
  | none =>
    match b.lastGood with
    | some g =>
      if g = 0 then none
      else
        match bisProbe c data (g - 1) b s with
        | (ret, b1, s1) => some (markNext (g - 1) ret b1, s1)
    | none =>
      match bisCheck c data (data.length - 1) b s with
      | (ret, b1, s1) => some (markNext (data.length - 1) ret b1, s1)

theorem bisLoop_succ (c : Cfg) (data : List Req) (k : Nat) (b : BisSt) (s : SchedSt) :
    bisLoop c data (k + 1) b s
      = match bisNext c data b s with
        | none   => (b, s)
        | some p => bisLoop c data k p.1 p.2 := by
  rw [bisLoop]
  split
  -- `bisNext` is unfolded on the right only: on the left `b.lastBad` also occurs in `{ b with lastGood := _ }`
  · rename_i hg hb
    conv => rhs; simp only [bisNext, hg, hb]
    generalize bisCheck c data (data.length - 1) b s = r
    obtain ⟨ret, b1, s1⟩ := r
    cases ret <;> rfl
  · rename_i g hg hb
    conv => rhs; simp only [bisNext, hg, hb, bisProbe]
    by_cases h0 : g = 0
    · rw [if_pos h0, if_pos h0]
    · rw [if_neg h0, if_neg h0]
      by_cases h1 : g - 1 ∈ b.good
      · rw [if_pos h1, if_pos h1]; rfl
      · rw [if_neg h1, if_neg h1]
        by_cases h2 : g - 1 ∈ b.bad
        · rw [if_pos h2, if_pos h2]; rfl
        · rw [if_neg h2, if_neg h2]
          generalize bisCheck c data (g - 1) b s = r
          obtain ⟨ret, b1, s1⟩ := r
          cases ret <;> rfl
  · rename_i bad hb
    conv => rhs; simp only [bisNext, hb, bisProbe]
    by_cases h0 : bad = 0
    · rw [if_pos h0, if_pos h0]
    · rw [if_neg h0, if_neg h0]
      generalize bisIdx _ bad = idx
      generalize (if idx ∈ b.good then _ else _ : Bool × BisSt × SchedSt) = r
      obtain ⟨ret, b1, s1⟩ := r
      cases ret
      · rfl
      · simp only [markBisect, apply_ite (bisLoop c data k · s1)]

/-! ### invariant and measure -/

def frontier (n : Nat) (b : BisSt) : Nat :=
  match b.lastBad, b.lastGood with
  | some bad, _      => bad
  | none,    some g => g
  | none,    none   => n

theorem frontier_bad {n : Nat} {b : BisSt} {bad : Nat} (hb : b.lastBad = some bad) : frontier n b = bad := by
  simp only [frontier, hb]

theorem frontier_good {n : Nat} {b : BisSt} {g : Nat} (hb : b.lastBad = none) (hg : b.lastGood = some g) :
    frontier n b = g := by
  simp only [frontier, hb, hg]

theorem frontier_none {n : Nat} {b : BisSt} (hb : b.lastBad = none) (hg : b.lastGood = none) : frontier n b = n := by
  simp only [frontier, hb, hg]

/-- no good index counts as one at -1 -/
def gapOf (og : Option Nat) (bad : Nat) : Nat :=
  match og with
  | some g => bad - g
  | none   => bad + 1

/-- without a bad index the value plays no role (every pass lowers the frontier then) but has to stay within
    `frontier + 1` (`gap_le`) -/
def gap (b : BisSt) : Nat :=
  match b.lastBad, b.lastGood with
  | some bad, og     => gapOf (resetGood og bad) bad
  | none,    some _ => 0
  | none,    none   => 1

/-- `gap b ≤ n + 1`, so a lower frontier outweighs any gap -/
def mu (n : Nat) (b : BisSt) : Nat := frontier n b * (n + 2) + gap b

/-- the index `i` occurs `g` times in `good` and `bf` times in `bad` and `fail` together; `f` is the frontier -/
structure ClsAt (n f i g bf : Nat) : Prop where
  le1      : g + bf ≤ 1
  beyond   : n ≤ i → g + bf = 0
  above    : f ≤ i → i < n → g + bf = 1
  badAbove : 0 < bf → f ≤ i

theorem ClsAt.bf_zero {n f i g bf : Nat} (h : ClsAt n f i g bf) (hi : i < f) : bf = 0 :=
  Nat.eq_zero_of_not_pos fun hp => Nat.lt_irrefl i (Nat.lt_of_lt_of_le hi (h.badAbove hp))

theorem ClsAt.lower {n f j i g bf : Nat} (h : ClsAt n f i g bf) (hj : j ≤ f)
    (hk : j ≤ i → i < f → g + bf = 1) : ClsAt n j i g bf where
  le1 := h.le1
  beyond := h.beyond
  above h1 h2 := if hf : f ≤ i then h.above hf h2 else hk h1 (Nat.lt_of_not_le hf)
  badAbove hb := Nat.le_trans hj (h.badAbove hb)

theorem clsAt_good {n f i : Nat} (hi : i < n) : ClsAt n f i 1 0 where
  le1 := Nat.le_refl 1
  beyond h := absurd h (Nat.not_le.mpr hi)
  above _ _ := rfl
  badAbove h := absurd h (Nat.lt_irrefl 0)

theorem clsAt_bad {n j i : Nat} (hj : j ≤ i) (hi : i < n) : ClsAt n j i 0 1 where
  le1 := Nat.le_refl 1
  beyond h := absurd h (Nat.not_le.mpr hi)
  above _ _ := rfl
  badAbove _ := hj

/-- `nb`, `nf`: the counts of `i` in `bad`, in `fail` -/
theorem ClsAt.skip {n f j i g nb nf : Nat} (h : ClsAt n f i g (nb + nf)) (hj : j < f) (hf : f ≤ n) (hi : i ≠ j) :
    ClsAt n j i g ((if j + 1 ≤ i ∧ i < f ∧ nb = 0 ∧ g = 0 then 1 else nb) + nf) := by
  split
  · rename_i hc
    obtain ⟨hji, hif, hnb, hg⟩ := hc
    have hnf : nf = 0 := (Nat.add_eq_zero_iff.mp (h.bf_zero hif)).2
    rw [hg, hnf]; exact clsAt_bad (Nat.le_of_succ_le hji) (Nat.lt_of_lt_of_le hif hf)
  · exact h.lower (Nat.le_of_lt hj) (fun h1 h2 => by have := h.le1; have := h.bf_zero h2; omega)

structure BInv (n : Nat) (b : BisSt) : Prop where
  cls     : ∀ i, ClsAt n (frontier n b) i (count i b.good) (count i b.bad + count i b.fail)
  goodPos : ∀ g, b.lastGood = some g → 0 < count g b.good
  badPos  : ∀ bad, b.lastBad = some bad → 0 < count bad b.bad + count bad b.fail
  init    : b.lastGood = none → b.lastBad = none → ∀ i, cnt b i = 0

theorem BInv.lt_good {n : Nat} {b : BisSt} (h : BInv n b) {g : Nat} (hg : b.lastGood = some g) : g < n := by
  refine Nat.lt_of_not_le fun hle => ?_
  have h0 := (Nat.add_eq_zero_iff.mp ((h.cls g).beyond hle)).1
  exact Nat.lt_irrefl 0 (h0 ▸ h.goodPos g hg)

theorem BInv.lt_bad {n : Nat} {b : BisSt} (h : BInv n b) {bad : Nat} (hb : b.lastBad = some bad) : bad < n := by
  refine Nat.lt_of_not_le fun hle => ?_
  have h0 := (Nat.add_eq_zero_iff.mp ((h.cls bad).beyond hle)).2
  exact Nat.lt_irrefl 0 (h0 ▸ h.badPos bad hb)

theorem BInv.frontier_le {n : Nat} {b : BisSt} (h : BInv n b) : frontier n b ≤ n := by
  cases hb : b.lastBad with
  | some bad => rw [frontier_bad hb]; exact Nat.le_of_lt (h.lt_bad hb)
  | none =>
    cases hg : b.lastGood with
    | some g => rw [frontier_good hb hg]; exact Nat.le_of_lt (h.lt_good hg)
    | none => rw [frontier_none hb hg]; exact Nat.le_refl n

theorem gap_bad {b : BisSt} {bad : Nat} (hb : b.lastBad = some bad) : gap b = gapOf (resetGood b.lastGood bad) bad := by
  simp only [gap, hb]

theorem gap_le (n : Nat) (b : BisSt) : gap b ≤ frontier n b + 1 := by
  cases hb : b.lastBad with
  | some bad =>
    rw [gap_bad hb, frontier_bad hb]
    cases resetGood b.lastGood bad with
    | some g => exact Nat.le_trans (Nat.sub_le bad g) (Nat.le_succ bad)
    | none => exact Nat.le_refl _
  | none =>
    cases hg : b.lastGood with
    | some g => simp only [gap, hb, hg]; exact Nat.zero_le _
    | none => simp only [gap, hb, hg, frontier_none hb hg]; exact Nat.le_add_left 1 n

theorem mu_lt {n : Nat} {b b' : BisSt} (h : BInv n b) (hf : frontier n b' < frontier n b) : mu n b' < mu n b := by
  have h1 := gap_le n b'
  have h2 := h.frontier_le
  have h3 : (frontier n b' + 1) * (n + 2) ≤ frontier n b * (n + 2) := Nat.mul_le_mul_right _ hf
  rw [Nat.add_mul] at h3
  unfold mu; omega

/-! ### settling one index -/

/-- `idx` is classified exactly once, as good iff `ret`; nothing else changes -/
structure Settled (b : BisSt) (idx : Nat) (ret : Bool) (b1 : BisSt) : Prop where
  lastGood : b1.lastGood = b.lastGood
  lastBad  : b1.lastBad = b.lastBad
  other : ∀ i, i ≠ idx → count i b1.good = count i b.good
            ∧ count i b1.bad + count i b1.fail = count i b.bad + count i b.fail
  mono  : ∀ i, count i b.good ≤ count i b1.good
  good  : ret = true → count idx b1.good = 1 ∧ count idx b1.bad + count idx b1.fail = 0
  bad   : ret = false → count idx b1.good = 0 ∧ count idx b1.bad + count idx b1.fail = 1

theorem Settled.known {b : BisSt} {idx : Nat} {ret : Bool}
    (hg : ret = true → count idx b.good = 1 ∧ count idx b.bad + count idx b.fail = 0)
    (hb : ret = false → count idx b.good = 0 ∧ count idx b.bad + count idx b.fail = 1) : Settled b idx ret b where
  lastGood := rfl
  lastBad := rfl
  other _ _ := ⟨rfl, rfl⟩
  mono _ := Nat.le_refl _
  good := hg
  bad := hb

theorem count_snoc_self (l : List Nat) (j : Nat) : count j (l ++ [j]) = count j l + 1 := by
  rw [count_append, count_cons_self, count_nil]

theorem count_snoc_ne (l : List Nat) {i j : Nat} (h : i ≠ j) : count i (l ++ [j]) = count i l := by
  rw [count_append, count_cons_of_ne (Ne.symm h), count_nil]; rfl

theorem bisCheck_settled (c : Cfg) (data : List Req) (idx : Nat) (b : BisSt) (s : SchedSt) (hi : idx < data.length)
    (h0 : cnt b idx = 0) : Settled b idx (bisCheck c data idx b s).1 (bisCheck c data idx b s).2.1 := by
  obtain ⟨h12, z3⟩ := Nat.add_eq_zero_iff.mp h0
  obtain ⟨z1, z2⟩ := Nat.add_eq_zero_iff.mp h12
  fun_cases bisCheck c data idx b s
  case case1 h => rw [getElem?_eq_getElem hi] at h; cases h
  case case2 =>
    -- placed: appended to `good`
    exact {
      lastGood := rfl
      lastBad := rfl
      other := fun i hi => ⟨count_snoc_ne _ hi, rfl⟩
      mono := fun i => by show _ ≤ count i (b.good ++ [idx]); rw [count_append]; exact Nat.le_add_right _ _
      good := fun _ => ⟨by show count idx (b.good ++ [idx]) = 1; rw [count_snoc_self, z1],
                        by show count idx b.bad + count idx b.fail = 0; rw [z2, z3]⟩
      bad := fun h => Bool.noConfusion h }
  case case3 =>
    -- must wait: appended to `bad`
    exact {
      lastGood := rfl
      lastBad := rfl
      other := fun i hi => ⟨rfl, congrArg (· + count i b.fail) (count_snoc_ne b.bad hi)⟩
      mono := fun i => Nat.le_refl _
      good := fun h => Bool.noConfusion h
      bad := fun _ => ⟨z1, by show count idx (b.bad ++ [idx]) + count idx b.fail = 1; rw [count_snoc_self, z2, z3]⟩ }
  case case4 =>
    -- error: appended to `fail`
    exact {
      lastGood := rfl
      lastBad := rfl
      other := fun i hi => ⟨rfl, congrArg (count i b.bad + ·) (count_snoc_ne b.fail hi)⟩
      mono := fun i => Nat.le_refl _
      good := fun h => Bool.noConfusion h
      bad := fun _ => ⟨z1, by show count idx b.bad + count idx (b.fail ++ [idx]) = 1; rw [count_snoc_self, z2, z3]⟩ }

/-- below the frontier an index is known at most once, and has not failed -/
theorem BInv.bisProbe_settled {data : List Req} {b : BisSt} (h : BInv data.length b) (c : Cfg) (s : SchedSt) {idx : Nat}
    (hi : idx < frontier data.length b) : Settled b idx (bisProbe c data idx b s).1 (bisProbe c data idx b s).2.1 := by
  have h1 := (h.cls idx).le1
  fun_cases bisProbe c data idx b s
  case case1 hg =>
    have := count_pos_iff.mpr hg
    exact Settled.known (fun _ => by omega) (fun h => Bool.noConfusion h)
  case case2 hg hb =>
    have := count_pos_iff.mpr hb
    exact Settled.known (fun h => Bool.noConfusion h) (fun _ => by omega)
  case case3 hg hb =>
    have hfl : count idx b.fail = 0 := (Nat.add_eq_zero_iff.mp ((h.cls idx).bf_zero hi)).2
    exact bisCheck_settled c data idx b s (Nat.lt_of_lt_of_le hi h.frontier_le)
      (by rw [cnt, count_eq_zero.mpr hg, count_eq_zero.mpr hb, hfl])

/-! ### the indices `lazy_bisect` assumes to be bad without checking them -/

structure Skipped (b : BisSt) (lo hi : Nat) (b' : BisSt) : Prop where
  good : b'.good = b.good
  fail : b'.fail = b.fail
  bad  : ∀ j, count j b'.bad
          = if lo ≤ j ∧ j < hi ∧ count j b.bad = 0 ∧ count j b.good = 0 then 1 else count j b.bad

theorem Skipped.refl (b : BisSt) (lo : Nat) : Skipped b lo lo b :=
  ⟨rfl, rfl, fun j => by rw [if_neg (fun hx => Nat.lt_irrefl _ (Nat.lt_of_le_of_lt hx.1 hx.2.1))]⟩

theorem Skipped.marks {b b' : BisSt} {lo hi : Nat} (h : Skipped b lo hi b') (og ob : Option Nat) :
    Skipped b lo hi { b' with lastGood := og, lastBad := ob } :=
  ⟨h.good, h.fail, h.bad⟩

theorem Skipped.step {b b1 : BisSt} {j hi : Nat} (h : Skipped b (j + 1) hi b1) (hj : j < hi) :
    Skipped b j hi (if j ∉ b1.bad ∧ j ∉ b1.good then { b1 with bad := b1.bad ++ [j] } else b1) := by
  have hj0 : count j b1.bad = count j b.bad := by rw [h.bad j, if_neg (fun hx => Nat.not_succ_le_self j hx.1)]
  have hne : ∀ i, i ≠ j → count i b1.bad
      = if j ≤ i ∧ i < hi ∧ count i b.bad = 0 ∧ count i b.good = 0 then 1 else count i b.bad := by
    intro i e
    rw [h.bad i]
    simp only [show (j + 1 ≤ i ↔ j ≤ i) from ⟨Nat.le_of_succ_le, fun hji => Nat.lt_of_le_of_ne hji (Ne.symm e)⟩]
  split
  · rename_i hc
    have hb0 : count j b.bad = 0 := hj0 ▸ count_eq_zero.mpr hc.1
    have hg0 : count j b.good = 0 := h.good ▸ count_eq_zero.mpr hc.2
    refine ⟨h.good, h.fail, fun i => ?_⟩
    show count i (b1.bad ++ [j]) = _
    by_cases e : i = j
    · subst e
      rw [count_snoc_self, hj0, if_pos ⟨Nat.le_refl _, hj, hb0, hg0⟩, hb0]
    · rw [count_snoc_ne _ e, hne i e]
  · rename_i hc
    refine ⟨h.good, h.fail, fun i => ?_⟩
    by_cases e : i = j
    · subst e
      have : ¬ (count i b.bad = 0 ∧ count i b.good = 0) := by
        rw [← hj0, ← h.good, count_eq_zero, count_eq_zero]; exact hc
      rw [hj0, if_neg (fun hx => this hx.2.2)]
    · exact hne i e

theorem markSkipped_fold (b : BisSt) (bad : Nat) : ∀ k lo, lo + k = bad →
    Skipped b lo bad ((List.range k).foldl
      (fun b i => if (bad - i - 1) ∉ b.bad ∧ (bad - i - 1) ∉ b.good
                  then { b with bad := b.bad ++ [bad - i - 1] } else b) b) := by
  intro k
  induction k with
  | zero => intro lo h; subst h; exact Skipped.refl b _
  | succ k ih =>
    intro lo h
    rw [range_succ, foldl_append]
    simp only [foldl_cons, foldl_nil]
    have hlo : bad - k - 1 = lo := by rw [← h, Nat.sub_sub, Nat.add_sub_cancel]
    rw [hlo]
    have hrest : lo + 1 + k = bad := (Nat.add_right_comm lo 1 k).trans h
    have hlt : lo < bad := h ▸ Nat.lt_add_of_pos_right (Nat.succ_pos k)
    exact (ih (lo + 1) hrest).step hlt

theorem markSkipped_spec (b : BisSt) (bad idx : Nat) (h : idx < bad) :
    Skipped b (idx + 1) bad (markSkipped b bad idx) :=
  markSkipped_fold b bad (bad - idx - 1) (idx + 1) (by rw [Nat.sub_sub]; exact Nat.add_sub_of_le h)

/-! ### the bisected candidate -/

theorem resetGood_le {og : Option Nat} {bad g : Nat} : resetGood og bad = some g → og = some g ∧ g ≤ bad := by
  fun_cases resetGood og bad
  case case1 | case3 => intro h; cases h
  case case2 x hx =>
    rintro ⟨⟩
    exact ⟨rfl, Nat.le_of_not_gt hx⟩

/-- where between the good index and `bad` the ratio puts the candidate plays no role: it is clamped to that range -/
theorem bisIdx_lt (og : Option Nat) (bad : Nat) (h0 : 0 < bad) (hg : ∀ g, og = some g → g < bad) :
    bisIdx og bad < bad ∧ (bisIdx og bad + 1 = bad ∨ ∀ g, og = some g → g < bisIdx og bad) := by
  unfold bisIdx
  have hb : bad - 1 < bad := Nat.sub_one_lt (Nat.ne_of_gt h0)
  cases og with
  | none =>
    simp only [reduceCtorEq, if_false]
    have h1 := Nat.min_le_right (ceilHalf (bad + 1)) (bad - 1)
    generalize min (ceilHalf (bad + 1)) (bad - 1) = i0 at h1 ⊢
    have h2 : i0 < bad := Nat.lt_of_le_of_lt h1 hb
    rw [if_neg (Nat.ne_of_lt h2)]
    exact ⟨h2, Or.inr (fun _ h => by cases h)⟩
  | some g =>
    have hgb := hg g rfl
    simp only [Option.some.injEq, forall_eq']
    have h1 := Nat.min_le_right (ceilHalf (bad - g + 1) + g) (bad - 1)
    have h2 : g ≤ min (ceilHalf (bad - g + 1) + g) (bad - 1) := Nat.le_min.mpr ⟨Nat.le_add_left _ _, Nat.le_sub_one_of_lt hgb⟩
    generalize min (ceilHalf (bad - g + 1) + g) (bad - 1) = i0 at h1 h2 ⊢
    have h3 : i0 < bad := Nat.lt_of_le_of_lt h1 hb
    by_cases e : g = i0
    · -- the candidate would be the last good index itself: the next one is taken
      rw [if_pos e, ← e]
      by_cases e2 : g + 1 = bad
      · rw [if_pos e2]; exact ⟨hb, Or.inl (Nat.sub_add_cancel h0)⟩
      · rw [if_neg e2]; exact ⟨Nat.lt_of_le_of_ne hgb e2, Or.inr (Nat.lt_succ_self g)⟩
    · rw [if_neg e, if_neg (Nat.ne_of_lt h3)]
      exact ⟨h3, Or.inr (Nat.lt_of_le_of_ne h2 e)⟩

theorem gapOf_lt {og : Option Nat} {bad idx : Nat} (hi : idx < bad) (h : ∀ g, og = some g → g < idx) :
    bad - idx < gapOf og bad := by
  unfold gapOf
  cases og with
  | none => exact Nat.lt_succ_of_le (Nat.sub_le _ _)
  | some g => exact Nat.sub_lt_sub_left (Nat.lt_trans (h g rfl) hi) (h g rfl)

/-! ### the three ways the markers move

`b'` is `b1` (the state after the probe) with the markers moved, described by what is read of it: `markNext` and
`markBisect` write the markers in different ways. -/

theorem binv_good {n : Nat} {b b1 b' : BisSt} {idx : Nat} (h : BInv n b) (hS : Settled b idx true b1)
    (hf : frontier n b = idx + 1) (hlg : b'.lastGood = some idx) (hlb : b'.lastBad = none)
    (hl : b'.good = b1.good ∧ b'.bad = b1.bad ∧ b'.fail = b1.fail) :
    BInv n b' ∧ mu n b' < mu n b := by
  have hfr : frontier n b' = idx := frontier_good hlb hlg
  have hn : idx + 1 ≤ n := hf ▸ h.frontier_le
  obtain ⟨g1, g2⟩ := hS.good rfl
  refine ⟨{ cls := fun i => ?cls, goodPos := fun g hg => ?goodPos, badPos := fun x hx => ?badPos, init := fun hx => ?init },
    mu_lt h (by rw [hfr, hf]; exact Nat.lt_succ_self idx)⟩
  case cls =>
    rw [hfr, hl.1, hl.2.1, hl.2.2]
    by_cases e : i = idx
    · subst e
      rw [g1, g2]; exact clsAt_good hn
    · obtain ⟨o1, o2⟩ := hS.other i e
      rw [o1, o2]
      -- the only index between the new frontier and the old one is `idx`
      exact (hf ▸ h.cls i).lower (Nat.le_succ _)
        (fun h1 h2 => absurd (Nat.le_antisymm (Nat.le_of_lt_succ h2) h1) e)
  case goodPos =>
    rw [hlg] at hg; cases hg
    rw [hl.1, g1]; exact Nat.one_pos
  case badPos => rw [hlb] at hx; cases hx
  case init => rw [hlg] at hx; cases hx

/-- the frontier stays, the last good index comes closer to it -/
theorem binv_inside {n : Nat} {b b1 b' : BisSt} {idx bad : Nat} (h : BInv n b) (hS : Settled b idx true b1)
    (hb : b.lastBad = some bad) (hi : idx < bad) (hgap : bad - idx < gap b)
    (hlg : b'.lastGood = some idx) (hlb : b'.lastBad = some bad)
    (hl : b'.good = b1.good ∧ b'.bad = b1.bad ∧ b'.fail = b1.fail) :
    BInv n b' ∧ mu n b' < mu n b := by
  have hfr : frontier n b' = bad := frontier_bad hlb
  have hf : frontier n b = bad := frontier_bad hb
  have hn := h.lt_bad hb
  obtain ⟨g1, g2⟩ := hS.good rfl
  refine ⟨{ cls := fun i => ?cls, goodPos := fun g hg => ?goodPos, badPos := fun x hx => ?badPos, init := fun hx => ?init },
    ?mu⟩
  case cls =>
    rw [hfr, hl.1, hl.2.1, hl.2.2]
    by_cases e : i = idx
    · subst e
      rw [g1, g2]; exact clsAt_good (Nat.lt_trans hi hn)
    · obtain ⟨o1, o2⟩ := hS.other i e
      rw [o1, o2, ← hf]; exact h.cls i
  case goodPos =>
    rw [hlg] at hg; cases hg
    rw [hl.1, g1]; exact Nat.one_pos
  case badPos =>
    rw [hlb] at hx; cases hx
    rw [hl.2.1, hl.2.2, (hS.other bad (Nat.ne_of_gt hi)).2]; exact h.badPos bad hb
  case init => rw [hlg] at hx; cases hx
  case mu =>
    have : gap b' = bad - idx := by
      simp only [gap, hlb, hlg, resetGood, gapOf]
      rw [if_neg (Nat.lt_asymm hi)]
    unfold mu
    rw [hfr, hf, this]; exact Nat.add_lt_add_left hgap _

theorem binv_bad {n : Nat} {b b1 b' : BisSt} {idx f : Nat} (h : BInv n b) (hS : Settled b idx false b1)
    (hf : frontier n b = f) (hi : idx < f) (hk : Skipped b1 (idx + 1) f b')
    (hlb : b'.lastBad = some idx) (hlg : ∀ g, b'.lastGood = some g → b.lastGood = some g) :
    BInv n b' ∧ mu n b' < mu n b := by
  have hfr : frontier n b' = idx := frontier_bad hlb
  have hn := h.frontier_le
  subst hf
  obtain ⟨g1, g2⟩ := hS.bad rfl
  have hidx : ¬ (idx + 1 ≤ idx ∧ idx < frontier n b ∧ count idx b1.bad = 0 ∧ count idx b1.good = 0) :=
    fun hx => Nat.not_succ_le_self idx hx.1
  refine ⟨{ cls := fun i => ?cls, goodPos := fun g hg => ?goodPos, badPos := fun x hx => ?badPos, init := fun _ hx => ?init },
    mu_lt h (by rw [hfr]; exact hi)⟩
  case cls =>
    rw [hfr, hk.good, hk.fail, hk.bad i]
    by_cases e : i = idx
    · subst e
      rw [if_neg hidx, g1, g2]
      exact clsAt_bad (Nat.le_refl _) (Nat.lt_of_lt_of_le hi hn)
    · obtain ⟨o1, o2⟩ := hS.other i e
      have c := h.cls i
      rw [← o1, ← o2] at c
      exact c.skip hi hn e
  case goodPos =>
    rw [hk.good]
    exact Nat.lt_of_lt_of_le (h.goodPos g (hlg g hg)) (hS.mono g)
  case badPos =>
    rw [hlb] at hx; cases hx
    rw [hk.bad idx, if_neg hidx, hk.fail, g2]; exact Nat.one_pos
  case init => rw [hlb] at hx; cases hx

theorem markNext_inv {n : Nat} {b b1 : BisSt} {idx : Nat} {ret : Bool} (h : BInv n b) (hS : Settled b idx ret b1)
    (hlb : b.lastBad = none) (hf : frontier n b = idx + 1) :
    BInv n (markNext idx ret b1) ∧ mu n (markNext idx ret b1) < mu n b := by
  cases ret with
  | true => exact binv_good h hS hf rfl (hS.lastBad.trans hlb) ⟨rfl, rfl, rfl⟩
  | false =>
    -- nothing lies between `idx` and the frontier: nothing is skipped
    exact binv_bad h hS hf (Nat.lt_succ_self _) ((Skipped.refl b1 _).marks _ _) rfl (fun g hg => hS.lastGood ▸ hg)

/-- `hadj` is what `BInv.bisIdx_gap` gives; `hog`: the good index kept is the one there was -/
theorem markBisect_inv {n : Nat} {b b1 : BisSt} {og : Option Nat} {bad idx : Nat} {ret : Bool} (h : BInv n b)
    (hS : Settled b idx ret b1) (hlb : b.lastBad = some bad) (hi : idx < bad)
    (hadj : idx + 1 = bad ∨ bad - idx < gap b) (hog : ∀ g, resetGood og idx = some g → b.lastGood = some g) :
    BInv n (markBisect og bad idx ret b1) ∧ mu n (markBisect og bad idx ret b1) < mu n b := by
  have hf : frontier n b = bad := frontier_bad hlb
  revert hS
  fun_cases markBisect og bad idx ret b1
  case case1 h1 => exact absurd h1 (Nat.lt_asymm hi)
  case case2 _ ha =>
    have hnext : bad = idx + 1 := by rw [← Nat.sub_add_cancel (Nat.le_of_lt hi), ha, Nat.add_comm]
    exact fun hS => binv_good h hS (hf.trans hnext) rfl rfl ⟨rfl, rfl, rfl⟩
  case case3 _ ha =>
    have hgap := hadj.resolve_left (fun e => ha (by rw [← e, Nat.add_sub_cancel_left]))
    exact fun hS => binv_inside h hS hlb hi hgap rfl rfl ⟨rfl, rfl, rfl⟩
  case case4 => exact fun hS => binv_bad h hS hf hi ((markSkipped_spec b1 bad idx hi).marks _ _) rfl hog

theorem BInv.bisIdx_gap {n : Nat} {b : BisSt} {bad : Nat} (h : BInv n b) (hlb : b.lastBad = some bad) (h0 : 0 < bad) :
    bisIdx (resetGood b.lastGood bad) bad < bad
    ∧ (bisIdx (resetGood b.lastGood bad) bad + 1 = bad
       ∨ bad - bisIdx (resetGood b.lastGood bad) bad < gap b) := by
  -- the last good index is not the last bad one: no index is classified twice
  have hgb : ∀ g, resetGood b.lastGood bad = some g → g < bad := by
    intro g hg
    obtain ⟨hg1, hg2⟩ := resetGood_le hg
    refine Nat.lt_of_le_of_ne hg2 (fun e => ?_)
    subst e
    exact absurd (Nat.le_trans (Nat.add_le_add (h.goodPos g hg1) (h.badPos g hlb)) (h.cls g).le1) (by decide)
  obtain ⟨h1, h2⟩ := bisIdx_lt _ bad h0 hgb
  exact ⟨h1, h2.imp_right (fun h3 => gap_bad hlb ▸ gapOf_lt h1 h3)⟩

theorem bisNext_inv (c : Cfg) (data : List Req) (hn : 0 < data.length) (b : BisSt) (s : SchedSt)
    (h : BInv data.length b) (p : BisSt × SchedSt) :
    bisNext c data b s = some p → BInv data.length p.1 ∧ mu data.length p.1 < mu data.length b := by
  fun_cases bisNext c data b s
  case case1 | case3 => intro h; cases h
  case case2 bad hlb h0 ret b1 s1 hp =>
    -- a bad index is known: bisect below it
    rintro ⟨⟩
    obtain ⟨hi, hadj⟩ := h.bisIdx_gap hlb (Nat.pos_of_ne_zero h0)
    have hS := h.bisProbe_settled c s (by rw [frontier_bad hlb]; exact hi)
    rw [hp] at hS
    -- `resetGood` (applied twice by the loop) only ever forgets the good index
    exact markBisect_inv h hS hlb hi hadj (fun g hg => (resetGood_le (resetGood_le hg).1).1)
  case case4 hlb g hlg h0 ret b1 s1 hp =>
    -- only a good index is known: the next one below it
    rintro ⟨⟩
    have hf : frontier data.length b = g := frontier_good hlb hlg
    have hS := h.bisProbe_settled c s (idx := g - 1) (by rw [hf]; exact Nat.sub_one_lt h0)
    rw [hp] at hS
    exact markNext_inv h hS hlb (hf.trans (Nat.sub_add_cancel (Nat.pos_of_ne_zero h0)).symm)
  case case5 hlb hlg ret b1 s1 hp =>
    -- nothing known yet: the last element is checked
    rintro ⟨⟩
    have hS := bisCheck_settled c data _ b s (Nat.sub_one_lt (Nat.ne_of_gt hn)) (h.init hlg hlb _)
    rw [hp] at hS
    exact markNext_inv h hS hlb ((frontier_none hlb hlg).trans (Nat.sub_add_cancel hn).symm)

theorem bisNext_none (c : Cfg) (data : List Req) (b : BisSt) (s : SchedSt) :
    bisNext c data b s = none → frontier data.length b = 0 := by
  fun_cases bisNext c data b s
  case case1 hlb => exact fun _ => frontier_bad hlb
  case case3 hlb hlg => exact fun _ => frontier_good hlb hlg
  all_goals intro h; cases h

/-- **`lazy_bisect` comes to its end with everything classified**, whatever the check answers -/
theorem bisLoop_all (c : Cfg) (data : List Req) (hn : 0 < data.length) :
    ∀ (fuel : Nat) (b : BisSt) (s : SchedSt), BInv data.length b → mu data.length b < fuel →
      BInv data.length (bisLoop c data fuel b s).1 ∧ frontier data.length (bisLoop c data fuel b s).1 = 0 := by
  intro fuel
  induction fuel with
  | zero => intro b s _ hm; exact absurd hm (Nat.not_lt_zero _)
  | succ k ih =>
    intro b s h hm
    rw [bisLoop_succ]
    cases hnx : bisNext c data b s with
    | none => exact ⟨h, bisNext_none c data b s hnx⟩
    | some p =>
      obtain ⟨h1, h2⟩ := bisNext_inv c data hn b s h p hnx
      exact ih p.1 p.2 h1 (Nat.lt_of_lt_of_le h2 (Nat.le_of_lt_succ hm))

theorem binv_start (n : Nat) : BInv n {} where
  cls _ := { le1 := Nat.zero_le _, beyond := fun _ => rfl, above := fun h1 h2 => absurd h1 (Nat.not_le.mpr h2),
             badAbove := fun h => absurd h (Nat.lt_irrefl 0) }
  goodPos _ h := by cases h
  badPos _ h := by cases h
  init _ _ _ := rfl

/-- every index of `data` is in exactly one of the three lists a bisect run returns -/
theorem bisLoop_partition (c : Cfg) (data : List Req) (hn : 0 < data.length) (fuel : Nat) (s : SchedSt)
    (hf : data.length * (data.length + 2) + 1 < fuel) (i : Nat) :
    cnt (bisLoop c data fuel {} s).1 i = if i < data.length then 1 else 0 := by
  obtain ⟨h1, h2⟩ := bisLoop_all c data hn fuel {} s (binv_start _) hf
  have hc := h1.cls i
  rw [h2] at hc
  unfold cnt
  rw [Nat.add_assoc]
  by_cases hi : i < data.length
  · rw [if_pos hi]; exact hc.above (Nat.zero_le i) hi
  · rw [if_neg hi]; exact hc.beyond (Nat.le_of_not_lt hi)

theorem mu_start_lt_fuel (n : Nat) : n * (n + 2) + 1 < (n + 2) * (n + 2) := by
  rw [Nat.add_mul n 2 (n + 2)]
  -- 1 < 2 * 2 ≤ 2 * (n + 2)
  exact Nat.add_lt_add_left (Nat.lt_of_lt_of_le (by decide : 1 < 2 * 2) (Nat.mul_le_mul_left 2 (Nat.le_add_left 2 n))) _

theorem lazyBisect_partition (c : Cfg) (data : List Req) (s : SchedSt) (i : Nat) :
    cnt (lazyBisect c data s).1 i = if i < data.length then 1 else 0 := by
  unfold lazyBisect
  by_cases h : data = []
  · rw [if_pos h, h]; exact (if_neg (Nat.not_lt_zero i)).symm
  · rw [if_neg h]
    exact bisLoop_partition c data (length_pos_iff.mpr h) _ s (mu_start_lt_fuel _) i

theorem bisCheck_state (c : Cfg) (data : List Req) (idx : Nat) (b : BisSt) (s : SchedSt) :
    (bisCheck c data idx b s).2.2 = s ∨ ∃ r, (bisCheck c data idx b s).2.2 = (tryAllocation c s r).2 := by
  fun_cases bisCheck c data idx b s
  case case1 => exact Or.inl rfl
  all_goals
    rename_i h
    exact Or.inr ⟨_, by rw [h]⟩

theorem bisProbe_state (c : Cfg) (data : List Req) (idx : Nat) (b : BisSt) (s : SchedSt) :
    (bisProbe c data idx b s).2.2 = s ∨ ∃ r, (bisProbe c data idx b s).2.2 = (tryAllocation c s r).2 := by
  fun_cases bisProbe c data idx b s
  case case1 | case2 => exact Or.inl rfl
  case case3 => exact bisCheck_state c data idx b s

theorem bisNext_state (c : Cfg) (data : List Req) (b : BisSt) (s : SchedSt) (p : BisSt × SchedSt) :
    bisNext c data b s = some p → p.2 = s ∨ ∃ r, p.2 = (tryAllocation c s r).2 := by
  fun_cases bisNext c data b s
  case case1 | case3 => intro h; cases h
  case case2 bad hlb h0 ret b1 s1 hp =>
    rintro ⟨⟩
    have := bisProbe_state c data (bisIdx (resetGood b.lastGood bad) bad) b s
    rwa [hp] at this
  case case4 hlb g hlg h0 ret b1 s1 hp =>
    rintro ⟨⟩
    have := bisProbe_state c data (g - 1) b s
    rwa [hp] at this
  case case5 hp =>
    rintro ⟨⟩
    have := bisCheck_state c data (data.length - 1) b s
    rwa [hp] at this

end RPVerif.Sched
