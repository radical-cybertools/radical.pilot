import RPVerif.Model.Shell
import RPVerif.Model.Script
import RPVerif.Lemmas.ListAux
/-! lemmas for C10 -/
namespace RPVerif.Shell
open List

/-- no `$` and no backtick: nothing bash would expand inside double quotes -/
def NoExp (s : Str) : Prop := ∀ c ∈ s, c ≠ '$' ∧ c ≠ '`'

instance (s : Str) : Decidable (NoExp s) := by unfold NoExp; infer_instance

theorem runc_cons {s s' : PS} {c : Char} (h : stepc s c = some s') (cs : Str) : runc s (c :: cs) = runc s' cs := by
  rw [runc, h]

theorem runc_append (a b : Str) : ∀ (s : PS), runc s (a ++ b) = (runc s a).bind (fun s' => runc s' b) := by
  induction a with
  | nil => intro s; rfl
  | cons c cs ih =>
    intro s
    rw [cons_append, runc, runc]
    cases stepc s c with
    | none => rfl
    | some s' => exact ih s'

theorem plainChar_ne_blank_quote (c : Char) (h : plainChar c = true) : c ≠ ' ' ∧ c ≠ '"' := by
  constructor <;> (intro hc; subst hc; revert h; decide)

theorem stepc_plain (c : Char) (hc : plainChar c = true) (u : Str) (d : List Str) :
    stepc { mode := .plain, cur := u, done := d } c = some { mode := .plain, cur := u ++ [c], done := d } := by
  obtain ⟨n1, n2⟩ := plainChar_ne_blank_quote c hc
  simp only [stepc, n1, n2, hc, if_false, if_true]

theorem runc_plain (w : Str) (hw : w.all plainChar = true) : ∀ (u : Str) (d : List Str),
    runc { mode := .plain, cur := u, done := d } w = some { mode := .plain, cur := u ++ w, done := d } := by
  induction w with
  | nil => intro u d; rw [append_nil]; rfl
  | cons c cs ih =>
    intro u d
    rw [all_cons, Bool.and_eq_true] at hw
    rw [runc_cons (stepc_plain c hw.1 u d), ih hw.2, append_assoc]
    rfl

theorem runc_word (w : Str) (hne : w ≠ []) (hw : w.all plainChar = true) (u : Str) (d : List Str) :
    runc { mode := .between, cur := u, done := d } w = some { mode := .plain, cur := w, done := d } := by
  cases w with
  | nil => exact absurd rfl hne
  | cons c cs =>
    rw [all_cons, Bool.and_eq_true] at hw
    obtain ⟨n1, n2⟩ := plainChar_ne_blank_quote c hw.1
    have hstep : stepc { mode := .between, cur := u, done := d } c = some { mode := .plain, cur := [c], done := d } := by
      simp only [stepc, n1, n2, hw.1, if_false, if_true]
    rw [runc_cons hstep, runc_plain cs hw.2]
    rfl

theorem runc_quoted (a : Str) (ha : NoExp a) : ∀ (u : Str) (d : List Str),
    runc { mode := .dquote, cur := u, done := d } (escape a ++ ['"'])
      = some { mode := .afterQuote, cur := u ++ a, done := d } := by
  -- `exact` steps `runc` through the two characters of an escaped backslash or quote by computation
  fun_induction escape a with
  | case1 => intro u d; rw [append_nil]; rfl
  | case2 cs ih =>
    intro u d
    exact (ih (fun x hx => ha x (mem_cons_of_mem _ hx)) (u ++ ['\\']) d).trans (by rw [append_assoc]; rfl)
  | case3 cs _ ih =>
    intro u d
    exact (ih (fun x hx => ha x (mem_cons_of_mem _ hx)) (u ++ ['"']) d).trans (by rw [append_assoc]; rfl)
  | case4 c cs h3 h4 ih =>
    intro u d
    obtain ⟨h1, h2⟩ := ha c mem_cons_self
    have hstep : stepc { mode := .dquote, cur := u, done := d } c = some { mode := .dquote, cur := u ++ [c], done := d } := by
      simp [stepc, h1, h2, h3, h4]
    rw [cons_append, runc_cons hstep]
    exact (ih (fun x hx => ha x (mem_cons_of_mem _ hx)) (u ++ [c]) d).trans (by rw [append_assoc]; rfl)

theorem runc_shQuote (a : Str) (ha : NoExp a) (u : Str) (d : List Str) :
    runc { mode := .plain, cur := u, done := d } (shQuote a) = some { mode := .afterQuote, cur := u ++ a, done := d } := by
  have hopen : stepc { mode := .plain, cur := u, done := d } '"' = some { mode := .dquote, cur := u, done := d } := rfl
  rw [shQuote, runc_cons hopen]
  exact runc_quoted a ha u d

theorem runc_arg (a : Str) (ha : NoExp a) (m : Mode) (u : Str) (d : List Str) (hm : m = .plain ∨ m = .afterQuote) :
    runc { mode := m, cur := u, done := d } (' ' :: shQuote a) = some { mode := .afterQuote, cur := a, done := d ++ [u] } := by
  have hblank : stepc { mode := m, cur := u, done := d } ' ' = some { mode := .between, cur := [], done := d ++ [u] } := by
    rcases hm with rfl | rfl <;> rfl
  have hopen : stepc { mode := .between, cur := [], done := d ++ [u] } '"'
      = some { mode := .dquote, cur := [], done := d ++ [u] } := rfl
  rw [runc_cons hblank, shQuote, runc_cons hopen]
  exact runc_quoted a ha [] (d ++ [u])

theorem finishO_runc_args (args : List Str) (ha : ∀ a ∈ args, NoExp a) :
    ∀ (m : Mode) (u : Str) (d : List Str), (m = .plain ∨ m = .afterQuote) →
      finishO (runc { mode := m, cur := u, done := d } ((args.map (fun a => ' ' :: shQuote a)).flatten))
        = some (d ++ u :: args) := by
  induction args with
  | nil =>
    intro m u d hm
    rcases hm with rfl | rfl <;> rfl
  | cons a as ih =>
    intro m u d hm
    rw [forall_mem_cons] at ha
    rw [map_cons, flatten_cons, runc_append, runc_arg a ha.1 m u d hm, Option.bind_some, ih ha.2 _ _ _ (Or.inr rfl),
      append_assoc]
    rfl

theorem isPrefixB_eq (p s : Str) (h : isPrefixB p s = true) : s = p ++ s.drop p.length := by
  fun_induction isPrefixB p s with
  | case1 => rfl
  | case2 => cases h
  | case3 a as b bs ih =>
    simp only [Bool.and_eq_true, decide_eq_true_eq] at h
    obtain ⟨rfl, h2⟩ := h
    simp only [length_cons, drop_succ_cons, cons_append]
    rw [← ih h2]

theorem takeWhile_dropWhile_append {α : Type} (p : α → Bool) (a b : List α) (ha : a.all p = true) (hb : ∀ c, b.head? = some c → p c = false) :
    (a ++ b).takeWhile p = a ∧ (a ++ b).dropWhile p = b := by
  have ha' := all_eq_true.mp ha
  rw [takeWhile_append_of_pos ha', dropWhile_append_of_pos ha']
  cases b with
  | nil => simp
  | cons c cs => simp [hb c rfl]

theorem expandHead_var (name val rest : Str) (hn : name.all nameChar = true)
    (hr : ∀ c, rest.head? = some c → nameChar c = false) :
    expandHead name val ('$' :: (name ++ rest)) = val ++ rest := by
  obtain ⟨h1, h2⟩ := takeWhile_dropWhile_append nameChar name rest hn hr
  simp only [expandHead, h1, h2, if_true]

theorem pilotVar_name : pilotVar.all nameChar = true := by
  unfold pilotVar
  -- `"…".toList` decodes UTF-8, slow to check; a literal is `String.ofList` of its characters (`String.toList_ofList`)
  rw [String.toList_ofList]
  decide

end RPVerif.Shell

namespace RPVerif.Script
open List

theorem runSeq_all_succeed (o : Nat → Nat) (cs : List Nat) (h : ∀ c ∈ cs, o c = 0) : runSeq o cs = (cs, true) := by
  fun_induction runSeq o cs with
  | case1 => rfl
  | case2 c cs hc ih => rw [ih (fun x hx => h x (mem_cons_of_mem _ hx))]
  | case3 c cs hc => exact absurd (h c mem_cons_self) hc

theorem runSeq_some_fails (o : Nat → Nat) (cs : List Nat) (h : ∃ c ∈ cs, o c ≠ 0) :
    ∃ pre c, runSeq o cs = (pre ++ [c], false) ∧ pre ++ [c] <+: cs ∧ o c ≠ 0 ∧ ∀ x ∈ pre, o x = 0 := by
  fun_induction runSeq o cs with
  | case1 => simp at h
  | case2 c cs hc ih =>
    have h' : ∃ x ∈ cs, o x ≠ 0 := by
      obtain ⟨x, hx, hne⟩ := h
      rcases mem_cons.mp hx with rfl | hx
      · exact absurd hc hne
      · exact ⟨x, hx, hne⟩
    obtain ⟨pre, x, he, hp, hx, hpre⟩ := ih h'
    exact ⟨c :: pre, x, by rw [he]; rfl, (prefix_cons_inj c).mpr hp, hx, forall_mem_cons.mpr ⟨hc, hpre⟩⟩
  | case3 c cs hc => exact ⟨[], c, rfl, by simp, hc, by simp⟩

theorem envGet_envSet (e : Env) (k v k' : Nat) :
    envGet (envSet e k v) k' = if k' = k then some v else envGet e k' := by
  unfold envGet envSet
  rw [ListAux.find?_cons_filter_ne]
  split <;> rfl

theorem runEnv_exports_other (l : List (Nat × Nat)) (k : Nat) (hl : ∀ x ∈ l, x.1 ≠ k) : ∀ (e : Env),
    envGet (runEnv e (l.map (fun kv => EnvAct.export kv.1 kv.2))) k = envGet e k := by
  induction l with
  | nil => intro e; rfl
  | cons y ys ih =>
    intro e
    rw [forall_mem_cons] at hl
    rw [map_cons, runEnv, foldl_cons, ← runEnv, ih hl.2, applyAct, envGet_envSet, if_neg hl.1.symm]

theorem runEnv_exports (env : List (Nat × Nat)) (hn : (env.map (·.1)).Nodup) :
    ∀ (e : Env) (k v : Nat), (k, v) ∈ env →
      envGet (runEnv e (env.map (fun kv => EnvAct.export kv.1 kv.2))) k = some v := by
  induction env with
  | nil => intro e k v h; cases h
  | cons kv rest ih =>
    intro e k v h
    rw [map_cons, nodup_cons] at hn
    rw [map_cons, runEnv, foldl_cons, ← runEnv]
    rcases mem_cons.mp h with rfl | h
    · -- this export: no later export touches the key
      rw [runEnv_exports_other rest k (fun x hx hk => hn.1 (hk ▸ mem_map.mpr ⟨x, hx, rfl⟩)), applyAct, envGet_envSet,
        if_pos rfl]
    · exact ih hn.2 _ k v h

end RPVerif.Script
