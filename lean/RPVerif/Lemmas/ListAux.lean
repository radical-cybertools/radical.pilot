/-! Facts about core lists that several models need, each stated once. -/
namespace RPVerif.ListAux
open List

theorem drop_eq_cons {α : Type} {l t : List α} {i : Nat} {a : α} (h : l.drop i = a :: t) :
    l[i]? = some a ∧ l.drop (i + 1) = t :=
  ⟨by rw [← Nat.add_zero i, ← getElem?_drop, h]; rfl, by rw [← drop_drop, h]; rfl⟩

theorem length_foldl_set {α : Type} (idx : List Nat) (l : List α) (v : α) :
    (idx.foldl (fun acc i => acc.set i v) l).length = l.length :=
  foldlRecOn (motive := fun l' : List α => l'.length = l.length) idx _ rfl fun _ h _ _ => length_set.trans h

theorem getElem?_foldl_set {α : Type} (idx : List Nat) (l : List α) (v : α) (j : Nat) :
    (idx.foldl (fun acc i => acc.set i v) l)[j]? = if j ∈ idx then (l[j]?).map (fun _ => v) else l[j]? := by
  induction idx generalizing l with
  | nil => rfl
  | cons i is ih =>
    rw [foldl_cons, ih, getElem?_set']
    by_cases hji : i = j
    · subst hji
      rw [if_pos rfl, if_pos mem_cons_self]
      cases l[i]? <;> split <;> rfl
    · rw [if_neg hji]
      by_cases hj : j ∈ is
      · rw [if_pos hj, if_pos (mem_cons_of_mem i hj)]
      · rw [if_neg hj, if_neg (fun h => (mem_cons.mp h).elim (fun e => hji e.symm) hj)]

/-! Association lists: a key is written as `(k, v) :: l.filter (·.1 ≠ k)`, removed by the same filter, read by `find? (·.1 = k)`. -/

theorem find?_filter_ne {α β : Type} [DecidableEq α] (l : List (α × β)) (k k' : α) :
    (l.filter (fun e => e.1 ≠ k)).find? (fun e => e.1 = k') = if k' = k then none else l.find? (fun e => e.1 = k') := by
  rw [find?_filter]
  split
  · subst k'
    exact find?_eq_none.mpr (by simp)
  · rename_i h
    congr 1
    funext e
    by_cases he : e.1 = k' <;> simp [he, h]

theorem find?_cons_filter_ne {α β : Type} [DecidableEq α] (l : List (α × β)) (k k' : α) (v : β) :
    ((k, v) :: l.filter (fun e => e.1 ≠ k)).find? (fun e => e.1 = k')
      = if k' = k then some (k, v) else l.find? (fun e => e.1 = k') := by
  by_cases h : k' = k
  · rw [if_pos h, find?_cons_of_pos (by simpa using h.symm)]
  · rw [if_neg h, find?_cons_of_neg (by simpa using Ne.symm h), find?_filter_ne, if_neg h]

section upsert
variable {α κ : Type} [DecidableEq κ]

/-- `d[key x] = x` on a dict kept as a list in insertion order.  The task managers' `setPilot`, `waitInsert` and the agent
    scheduler's `setPool`, `poolInsert` unfold to it. -/
def upsert (key : α → κ) (l : List α) (x : α) : List α :=
  if l.any (fun z => key z = key x) then l.map (fun z => if key z = key x then x else z) else l ++ [x]

theorem mem_upsert (key : α → κ) {l : List α} {x y : α} (h : y ∈ upsert key l x) :
    y = x ∨ y ∈ l := by
  unfold upsert at h
  split at h
  · obtain ⟨z, hz, rfl⟩ := mem_map.mp h
    split
    · exact Or.inl rfl
    · exact Or.inr hz
  · rcases mem_append.mp h with h | h
    · exact Or.inr h
    · exact Or.inl (mem_singleton.mp h)

theorem map_key_upsert (key : α → κ) (l : List α) (x : α) :
    (upsert key l x).map key = if l.any (fun z => key z = key x) then l.map key else l.map key ++ [key x] := by
  unfold upsert
  split
  · rw [map_map]
    refine map_congr_left fun z _ => ?_
    dsimp only [Function.comp]
    split
    · next h => exact h.symm
    · rfl
  · exact map_append

theorem find?_upsert (key : α → κ) (l : List α) (x : α) (k : κ) :
    (upsert key l x).find? (fun z => key z = k) = if k = key x then some x else l.find? (fun z => key z = k) := by
  unfold upsert
  split
  · next h =>
    -- the rewriting keeps the keys, so it commutes with the search
    have hF : ((fun z => decide (key z = k)) ∘ fun z => if key z = key x then x else z) = fun z => decide (key z = k) :=
      funext fun z => by dsimp only [Function.comp]; split <;> simp [*]
    rw [find?_map, hF]
    cases hf : l.find? (fun z => key z = k) with
    | none =>
      rw [if_neg]
      · rfl
      · rintro rfl
        rw [find?_eq_none] at hf
        obtain ⟨z, hz, hk⟩ := any_eq_true.mp h
        exact hf z hz hk
    | some z =>
      have hz : key z = k := by simpa using find?_some hf
      rw [← hz]
      exact apply_ite some _ _ _
  · next h =>
    rw [find?_append, find?_singleton]
    by_cases hk : k = key x
    · subst hk
      rw [if_pos rfl, if_pos (decide_eq_true rfl), find?_eq_none.mpr fun z hz hk => h (any_eq_true.mpr ⟨z, hz, hk⟩)]
      rfl
    · rw [if_neg hk, if_neg fun e => hk (of_decide_eq_true e).symm, Option.or_none]

end upsert

theorem count_filter_add {α : Type} [BEq α] (p : α → Bool) (l : List α) (a : α) :
    (l.filter p).count a + (l.filter (fun x => !p x)).count a = l.count a :=
  (countP_eq_countP_filter_add l (· == a) p).symm

theorem count_map_filter_add {α β : Type} [BEq β] (f : α → β) (p : α → Bool) (l : List α) (b : β) :
    ((l.filter p).map f).count b + ((l.filter (fun x => !p x)).map f).count b = (l.map f).count b := by
  simp only [count_eq_countP, countP_map]
  exact (countP_eq_countP_filter_add l _ p).symm

theorem any_eq_iff_count_pos {α β : Type} [DecidableEq β] (f : α → β) (l : List α) (b : β) :
    l.any (fun x => f x = b) = true ↔ 0 < (l.map f).count b := by
  rw [count_pos_iff, any_eq_true]
  simp only [mem_map, decide_eq_true_eq]

theorem eq_of_nodup_map {α β : Type} {f : α → β} {l : List α} (h : (l.map f).Nodup) {a b : α} (ha : a ∈ l) (hb : b ∈ l)
    (e : f a = f b) : a = b :=
  have hne := pairwise_map.mp h
  Pairwise.forall_of_forall_of_flip (R := fun a b => f a = f b → a = b) (fun _ _ _ => rfl)
    (hne.imp fun hne e => absurd e hne) (hne.imp fun hne e => absurd e.symm hne) ha hb e

theorem add_mod_ne {w k a b : Nat} (hab : a < b) (hb : b < k) : (w + a) % k ≠ (w + b) % k := by
  intro e
  have h := Nat.sub_mod_eq_zero_of_mod_eq e.symm
  rw [Nat.add_sub_add_left, Nat.mod_eq_of_lt (Nat.lt_of_le_of_lt (Nat.sub_le b a) hb)] at h
  exact Nat.lt_irrefl _ (Nat.lt_of_lt_of_le hab (Nat.le_of_sub_eq_zero h))

end RPVerif.ListAux
