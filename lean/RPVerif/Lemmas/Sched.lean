import RPVerif.Model.Sched
import RPVerif.Lemmas.ListAux
/-!
The per-node search `_find_resources` (C01, C02): whatever one call hands out fits the node (`NodeFit`), by an
invariant of its loop (`FRInv`); and what `_change_slot_states` does to the occupation lists of one node.
-/
namespace RPVerif.Sched
open List

/-- the `match` on the rest's answer written as `getD` (`resumeAt_getD` takes it off again) -/
theorem pickFree_cons (o : Occ) (os : List Occ) (idx need : Nat) (acc : List Nat) :
    pickFree (o :: os) idx need acc =
      if (if o = .free then acc ++ [idx] else acc).length = need then
        (if o = .free then acc ++ [idx] else acc, some idx)
      else
        ((pickFree os (idx + 1) need (if o = .free then acc ++ [idx] else acc)).1,
         some ((pickFree os (idx + 1) need (if o = .free then acc ++ [idx] else acc)).2.getD idx)) := by
  rw [pickFree]
  generalize (if o = .free then acc ++ [idx] else acc) = acc'
  split
  · rfl
  · rcases pickFree os (idx + 1) need acc' with ⟨r, _ | last⟩ <;> rfl

/-- `loop_core_idx` / `loop_gpu_idx` after a scan that started at `start` -/
def resumeAt (last : Option Nat) (start : Nat) : Nat :=
  match last with
  | some l => l + 1
  | none   => start

theorem resumeAt_getD (last : Option Nat) (k : Nat) : resumeAt (some (last.getD k)) k = resumeAt last (k + 1) := by
  cases last <;> rfl

theorem pickFree_spec (l : List Occ) (need : Nat) {os : List Occ} {k : Nat} (acc : List Nat)
    (hos : l.drop k = os) (hacc : acc.length < need) :
    ∃ new, (pickFree os k need acc).1 = acc ++ new ∧ (acc ++ new).length ≤ need ∧ new.Pairwise (· < ·)
      ∧ k ≤ resumeAt (pickFree os k need acc).2 k
      ∧ ∀ i ∈ new, k ≤ i ∧ i < resumeAt (pickFree os k need acc).2 k ∧ l[i]? = some Occ.free := by
  induction os generalizing k acc with
  | nil =>
    exact ⟨[], (append_nil acc).symm, by rw [append_nil]; exact Nat.le_of_lt hacc, Pairwise.nil, Nat.le_refl k, forall_mem_nil _⟩
  | cons o os ih =>
    obtain ⟨hk, hos'⟩ := ListAux.drop_eq_cons hos
    rw [pickFree_cons]
    by_cases hf : o = .free
    · rw [if_pos hf]
      by_cases hfull : (acc ++ [k]).length = need
      · rw [if_pos hfull]
        refine ⟨[k], rfl, Nat.le_of_eq hfull, pairwise_singleton _ _, Nat.le_succ k, fun i hi => ?_⟩
        rw [mem_singleton.mp hi]
        exact ⟨Nat.le_refl k, Nat.lt_succ_self k, hf ▸ hk⟩
      · rw [if_neg hfull, resumeAt_getD]
        obtain ⟨new, heq, hle, hsorted, hres, hnew⟩ :=
          ih (acc ++ [k]) hos' (Nat.lt_of_le_of_ne (by rw [length_append]; exact hacc) hfull)
        rw [append_assoc] at heq hle
        refine ⟨k :: new, heq, hle, pairwise_cons.mpr ⟨fun i hi => (hnew i hi).1, hsorted⟩, Nat.le_of_succ_le hres,
                fun i hi => ?_⟩
        rcases mem_cons.mp hi with rfl | hi
        · exact ⟨Nat.le_refl i, hres, hf ▸ hk⟩
        · exact ⟨Nat.le_of_succ_le (hnew i hi).1, (hnew i hi).2⟩
    · rw [if_neg hf, if_neg (Nat.ne_of_lt hacc), resumeAt_getD]
      obtain ⟨new, heq, hle, hsorted, hres, hnew⟩ := ih acc hos' hacc
      exact ⟨new, heq, hle, hsorted, Nat.le_of_succ_le hres, fun i hi => ⟨Nat.le_of_succ_le (hnew i hi).1, (hnew i hi).2⟩⟩

/-- `old`: the picks of the earlier passes of the `_find_resources` loop -/
theorem pickFree_resume (l : List Occ) (k need : Nat) (hneed : 0 < need) (cs : List Nat) (last : Option Nat)
    (h : pickFree (l.drop k) k need [] = (cs, last)) (hlen : need ≤ cs.length)
    (old : List Nat) (hinc : old.Pairwise (· < ·)) (hold : ∀ i ∈ old, i < k) :
    cs.length = need ∧ (∀ i ∈ cs, k ≤ i ∧ l[i]? = some Occ.free) ∧ (old ++ cs).Pairwise (· < ·)
    ∧ ∀ i ∈ old ++ cs, i < resumeAt last k := by
  obtain ⟨new, heq, hle, hsorted, hres, hnew⟩ := pickFree_spec l need [] rfl hneed
  rw [h] at heq hres hnew
  rw [nil_append] at heq hle
  subst heq
  exact ⟨Nat.le_antisymm hle hlen, fun i hi => ⟨(hnew i hi).1, (hnew i hi).2.2⟩,
         pairwise_append.mpr ⟨hinc, hsorted, fun a ha b hb => Nat.lt_of_lt_of_le (hold a ha) (hnew b hb).1⟩,
         forall_mem_append.mpr ⟨fun i hi => Nat.lt_of_lt_of_le (hold i hi) hres, fun i hi => (hnew i hi).2.1⟩⟩

theorem shareOf_nil (g : Nat) : shareOf [] g = 0 := rfl

theorem shareOf_eq_sum (sh : List (Nat × Nat)) (g : Nat) :
    shareOf sh g = ((sh.filter (fun p => p.1 = g)).map (·.2)).sum := by
  unfold shareOf
  rw [sum_eq_foldl, foldl_map]

theorem shareOf_append (a b : List (Nat × Nat)) (g : Nat) : shareOf (a ++ b) g = shareOf a g + shareOf b g := by
  rw [shareOf_eq_sum, shareOf_eq_sum, shareOf_eq_sum, filter_append, map_append, sum_append]

theorem shareOf_single (g' sh g : Nat) : shareOf [(g', sh)] g = if g' = g then sh else 0 := by
  rw [shareOf_eq_sum]
  by_cases h : g' = g <;> simp [h]

theorem shareOf_pos_mem (l : List (Nat × Nat)) (g : Nat) (h : 0 < shareOf l g) : ∃ p ∈ l, p.1 = g := by
  rw [shareOf_eq_sum] at h
  obtain ⟨x, hx, _⟩ := List.sum_pos_iff_exists_pos_nat.mp h
  obtain ⟨p, hp, _⟩ := mem_map.mp hx
  exact ⟨p, (mem_filter.mp hp).1, of_decide_eq_true (mem_filter.mp hp).2⟩

theorem shareOf_ge_mem (l : List (Nat × Nat)) (p : Nat × Nat) (h : p ∈ l) : p.2 ≤ shareOf l p.1 := by
  induction l with
  | nil => cases h
  | cons q qs ih =>
    have e : shareOf (q :: qs) p.1 = shareOf [q] p.1 + shareOf qs p.1 := shareOf_append [q] qs p.1
    rcases mem_cons.mp h with rfl | h
    · rw [e, shareOf_single, if_pos rfl]
      exact Nat.le_add_right _ _
    · exact Nat.le_trans (ih h) (e ▸ Nat.le_add_left _ _)

theorem shareOf_whole (gs : List Nat) (hinc : gs.Pairwise (· < ·)) (g : Nat) :
    shareOf (gs.map (fun x => (x, 16))) g = if g ∈ gs then 16 else 0 := by
  induction gs with
  | nil => rfl
  | cons x xs ih =>
    obtain ⟨hx, hxs⟩ := pairwise_cons.mp hinc
    rw [map_cons, ← singleton_append, shareOf_append, shareOf_single, ih hxs]
    by_cases h1 : x = g
    · -- `x` is below everything in `xs`, so it does not occur there
      subst h1
      rw [if_pos rfl, if_pos mem_cons_self, if_neg (fun hm => Nat.lt_irrefl x (hx x hm))]
    · by_cases h2 : g ∈ xs
      · rw [if_neg h1, if_pos h2, if_pos (mem_cons_of_mem x h2), Nat.zero_add]
      · rw [if_neg h1, if_neg h2, if_neg (fun hm => (mem_cons.mp hm).elim (fun e => h1 e.symm) h2)]

theorem pickShare_spec (l : List Occ) (share : Nat) (sh : List (Nat × Nat)) {os : List Occ} {k : Nat} {g lg : Nat}
    (hos : l.drop k = os) (h : pickShare os k share sh = (some g, lg)) :
    lg = g ∧ k ≤ g ∧ ∃ o, l[g]? = some o ∧ o ≠ Occ.down ∧ share + occVal o + shareOf sh g ≤ 16 := by
  fun_induction pickShare os k share sh with
  | case1 => cases h
  | case2 o os k share sh hc =>
    cases h
    exact ⟨rfl, Nat.le_refl _, o, (ListAux.drop_eq_cons hos).1, hc.1, hc.2⟩
  | case3 o os k share sh hc ih =>
    obtain ⟨a, b, c⟩ := ih (ListAux.drop_eq_cons hos).2 h
    exact ⟨a, Nat.le_of_succ_le b, c⟩

def allCores (slots : List Slot) : List Nat := slots.flatMap (·.cores)
def allGpus  (slots : List Slot) : List (Nat × Nat) := slots.flatMap (·.gpus)

/-- what one `_find_resources` call may hand out on node `n` -/
structure NodeFit (n : NodeSt) (cps gpr lfs mem : Nat) (slots : List Slot) : Prop where
  /-- distinct over all slots, as strictly increasing -/
  cores_inc  : (allCores slots).Pairwise (· < ·)
  cores_free : ∀ c ∈ allCores slots, n.cores[c]? = some Occ.free
  gpus_fit   : ∀ g, 0 < shareOf (allGpus slots) g →
                 (∃ o, n.gpus[g]? = some o ∧ o ≠ Occ.down ∧ shareOf (allGpus slots) g + occVal o ≤ 16)
  lfs_fit    : lfs ≠ 0 → ((lfs * slots.length : Nat) : Int) ≤ n.lfs
  mem_fit    : mem ≠ 0 → ((mem * slots.length : Nat) : Int) ≤ n.mem
  /-- shape of every slot (C02) -/
  shape      : ∀ sl ∈ slots, sl.node = n.index ∧ sl.cores.length = cps ∧ sl.lfs = lfs ∧ sl.mem = mem
                 ∧ (gpr ≥ 16 → sl.gpus.length = gpr / 16 ∧ (sl.gpus.map (·.1)).Pairwise (· < ·) ∧ ∀ g ∈ sl.gpus, g.2 = 16)
                 ∧ (0 < gpr ∧ gpr < 16 → ∃ g, sl.gpus = [(g, gpr)])
                 ∧ (gpr = 0 → sl.gpus = [])

/-- all picks lie below the resume positions, so a later pass cannot take a core or a whole GPU again; `whole_inc` is
    what `pickFree_resume` needs to go on; `shares` is the model's list of the fractional shares handed out, which
    `pickShare` reads -/
structure FRInv (n : NodeSt) (cps gpr lfs mem : Nat) (st : FRState) : Prop where
  fit     : NodeFit n cps gpr lfs mem st.slots
  core_lt : ∀ c ∈ allCores st.slots, c < st.loopCore
  gpu_lt  : gpr ≥ 16 → ∀ g ∈ allGpus st.slots, g.1 < st.loopGpu
  shares  : st.shares = (if gpr < 16 then allGpus st.slots else [])
  whole_share : gpr ≥ 16 → ∀ g ∈ allGpus st.slots, g.2 = 16
  whole_inc   : gpr ≥ 16 → ((allGpus st.slots).map (·.1)).Pairwise (· < ·)

theorem FRInv_init (n : NodeSt) (cps gpr lfs mem : Nat) (hl : lfs ≠ 0 → (0 : Int) ≤ n.lfs)
    (hm : mem ≠ 0 → (0 : Int) ≤ n.mem) : FRInv n cps gpr lfs mem {} where
  fit := { cores_inc := Pairwise.nil, cores_free := forall_mem_nil _, gpus_fit := fun _ h => absurd h (Nat.lt_irrefl 0),
           lfs_fit := hl, mem_fit := hm, shape := forall_mem_nil _ }
  core_lt := forall_mem_nil _
  gpu_lt := fun _ => forall_mem_nil _
  shares := by split <;> rfl
  whole_share := fun _ => forall_mem_nil _
  whole_inc := fun _ => Pairwise.nil

theorem allCores_append (a : List Slot) (sl : Slot) : allCores (a ++ [sl]) = allCores a ++ sl.cores := by
  simp [allCores]

theorem allGpus_append (a : List Slot) (sl : Slot) : allGpus (a ++ [sl]) = allGpus a ++ sl.gpus := by
  simp [allGpus]

/-- how one pass finds the GPUs of the new slot; indices: the GPUs, the new `loop_gpu_idx`, the shares handed out so far -/
inductive GpuPick (n : NodeSt) (gpr : Nat) (st : FRState) : List (Nat × Nat) → Nat → List (Nat × Nat) → Prop
  | whole (gs : List Nat) (glast : Option Nat) : 16 ≤ gpr → gpr % 16 = 0 →
      pickFree (n.gpus.drop st.loopGpu) st.loopGpu (gpr / 16) [] = (gs, glast) → gpr / 16 ≤ gs.length →
      GpuPick n gpr st (gs.map (fun g => (g, 16))) (resumeAt glast st.loopGpu) st.shares
  | share (g lg : Nat) : 0 < gpr → gpr < 16 →
      pickShare (n.gpus.drop st.loopGpu) st.loopGpu gpr st.shares = (some g, lg) →
      GpuPick n gpr st [(g, gpr)] lg (st.shares ++ [(g, gpr)])
  | none : gpr = 0 → GpuPick n gpr st [] st.loopGpu st.shares

theorem findOne_some {n : NodeSt} {cps gpr lfs mem : Nat} {st st' : FRState}
    (h : findOne n cps gpr lfs mem st = .ok (some st')) :
    (lfs ≠ 0 → ((lfs * (st.slots.length + 1) : Nat) : Int) ≤ n.lfs)
    ∧ (mem ≠ 0 → ((mem * (st.slots.length + 1) : Nat) : Int) ≤ n.mem)
    ∧ ∃ cs last gs lg sh,
        pickFree (n.cores.drop st.loopCore) st.loopCore cps [] = (cs, last) ∧ cps ≤ cs.length
        ∧ GpuPick n gpr st gs lg sh
        ∧ st' = { loopCore := resumeAt last st.loopCore, loopGpu := lg, shares := sh,
                  slots := st.slots ++ [{ node := n.index, cores := cs, gpus := gs, lfs := lfs, mem := mem }] } := by
  have hge : ∀ {x : Nat} {a b : Int}, ¬ (x ≠ 0 ∧ a < b) → x ≠ 0 → b ≤ a :=
    fun hn h0 => Int.not_lt.mp (fun hlt => hn ⟨h0, hlt⟩)
  revert h
  -- the three branches of the model that return a state: whole GPUs, a share of one, none
  fun_cases findOne n cps gpr lfs mem st with
  | case1 | case2 | case3 | case4 | case5 | case7 => intro h; cases h
  | case6 hl hm cs last hp hlen hw hmod gs glast hg hgl =>
    intro h
    cases h
    exact ⟨hge hl, hge hm, cs, last, _, _, _, hp, Nat.le_of_not_lt hlen,
           .whole gs glast hw (Decidable.not_not.mp hmod) hg (Nat.le_of_not_lt hgl), rfl⟩
  | case8 hl hm cs last hp hlen hw hf g lg hps =>
    intro h
    cases h
    exact ⟨hge hl, hge hm, cs, last, _, _, _, hp, Nat.le_of_not_lt hlen, .share g lg hf (Nat.lt_of_not_le hw) hps, rfl⟩
  | case9 hl hm cs last hp hlen hw hf =>
    intro h
    cases h
    exact ⟨hge hl, hge hm, cs, last, _, _, _, hp, Nat.le_of_not_lt hlen, .none (Nat.eq_zero_of_not_pos hf), rfl⟩

/-- a GPU amount above one that is not whole: the search raises `cannot share GPUs>1` as soon as the cores of a rank
    are found -/
theorem findOne_fractional {n : NodeSt} {cps gpr lfs mem : Nat} {st st' : FRState} (h1 : gpr ≥ 16) (h2 : gpr % 16 ≠ 0) :
    findOne n cps gpr lfs mem st ≠ .ok (some st') := by
  intro h
  obtain ⟨_, _, _, _, gs, lg, sh, _, _, hgpu, _⟩ := findOne_some h
  cases hgpu with
  | whole _ _ _ hmod => exact h2 hmod
  | share _ _ _ h16 => exact Nat.not_lt_of_le h1 h16
  | none h0 => exact absurd (h0 ▸ h1) (by decide)

/-- the GPU clauses of `FRInv` -/
structure GpuInv (n : NodeSt) (gpr : Nat) (gpus : List (Nat × Nat)) (loopGpu : Nat) (shares : List (Nat × Nat)) : Prop where
  gpus_fit    : ∀ g, 0 < shareOf gpus g → ∃ o, n.gpus[g]? = some o ∧ o ≠ Occ.down ∧ shareOf gpus g + occVal o ≤ 16
  gpu_lt      : gpr ≥ 16 → ∀ g ∈ gpus, g.1 < loopGpu
  shares      : shares = (if gpr < 16 then gpus else [])
  whole_share : gpr ≥ 16 → ∀ g ∈ gpus, g.2 = 16
  whole_inc   : gpr ≥ 16 → (gpus.map (·.1)).Pairwise (· < ·)

theorem gpuPick_inv {n : NodeSt} {gpr : Nat} {st : FRState} {gpus gs sh : List (Nat × Nat)} {lg : Nat}
    (hp : GpuPick n gpr st gs lg sh) (hi : GpuInv n gpr gpus st.loopGpu st.shares) :
    GpuInv n gpr (gpus ++ gs) lg sh
    ∧ (gpr ≥ 16 → gs.length = gpr / 16 ∧ (gs.map (·.1)).Pairwise (· < ·) ∧ ∀ g ∈ gs, g.2 = 16)
    ∧ (0 < gpr ∧ gpr < 16 → ∃ g, gs = [(g, gpr)])
    ∧ (gpr = 0 → gs = []) := by
  cases hp with
  | none h0 =>
    subst h0
    rw [append_nil]
    exact ⟨hi, fun h => absurd h (by decide), fun h => absurd h.1 (Nat.lt_irrefl 0), fun _ => rfl⟩
  | share g lg h0 h16 hps =>
    have hnw : ¬ gpr ≥ 16 := Nat.not_le_of_lt h16
    obtain ⟨_, _, o, ho, hup, hroom⟩ := pickShare_spec n.gpus gpr st.shares rfl hps
    have hsh : st.shares = gpus := by rw [hi.shares, if_pos h16]
    refine ⟨{ gpus_fit := ?_, gpu_lt := fun h => absurd h hnw, shares := by rw [if_pos h16, hsh],
              whole_share := fun h => absurd h hnw, whole_inc := fun h => absurd h hnw },
            fun h => absurd h hnw, fun _ => ⟨g, rfl⟩, fun h => absurd h (Nat.ne_of_gt h0)⟩
    -- `pickShare` found room on `g` on top of what the node map and the earlier slots show
    intro g' hpos
    rw [shareOf_append, shareOf_single] at hpos ⊢
    by_cases he : g = g'
    · subst he
      rw [if_pos rfl]
      exact ⟨o, ho, hup, by rw [Nat.add_assoc, Nat.add_comm]; exact hsh ▸ hroom⟩
    · rw [if_neg he, Nat.add_zero] at hpos ⊢
      exact hi.gpus_fit g' hpos
  | whole gs glast hw hmod hg hgl =>
    have hnf : ¬ gpr < 16 := Nat.not_lt_of_le hw
    have hlt := hi.gpu_lt hw
    obtain ⟨hcount, hfree, hsorted, hbelow⟩ :=
      pickFree_resume n.gpus st.loopGpu (gpr / 16) (Nat.div_pos hw (by decide)) gs glast hg hgl
        (gpus.map (·.1)) (hi.whole_inc hw) (forall_mem_map.mpr hlt)
    have hinc : gs.Pairwise (· < ·) := (pairwise_append.mp hsorted).2.1
    have hmap : (gs.map (fun g => (g, 16)) : List (Nat × Nat)).map (·.1) = gs := by
      rw [map_map]; exact map_id' gs
    have h16 : ∀ g ∈ (gs.map (fun g => (g, 16)) : List (Nat × Nat)), g.2 = 16 := fun g hg' => by
      obtain ⟨x, _, rfl⟩ := mem_map.mp hg'
      rfl
    rw [← hmap, ← map_append] at hsorted hbelow
    refine ⟨{ gpus_fit := ?_, gpu_lt := fun _ => forall_mem_map.mp hbelow, shares := by rw [if_neg hnf, hi.shares, if_neg hnf],
              whole_share := fun _ => forall_mem_append.mpr ⟨hi.whole_share hw, h16⟩, whole_inc := fun _ => hsorted },
            fun _ => ⟨by rw [length_map, hcount], hmap.symm ▸ hinc, h16⟩,
            fun h => absurd h.2 hnf, fun h => absurd (h ▸ hw) (by decide)⟩
    intro g hpos
    rw [shareOf_append, shareOf_whole gs hinc] at hpos ⊢
    by_cases hin : g ∈ gs
    · -- a GPU picked in this pass was not picked before: earlier picks lie below the resume position
      have hold : shareOf gpus g = 0 := Nat.eq_zero_of_not_pos fun hsh =>
        have ⟨p, hp, e⟩ := shareOf_pos_mem gpus g hsh
        Nat.lt_irrefl g (Nat.lt_of_lt_of_le (e ▸ hlt p hp) (hfree g hin).1)
      rw [hold, if_pos hin]
      exact ⟨Occ.free, (hfree g hin).2, by decide, by decide⟩
    · rw [if_neg hin, Nat.add_zero] at hpos ⊢
      exact hi.gpus_fit g hpos

theorem findOne_inv {n : NodeSt} {cps gpr lfs mem : Nat} (hcps : 0 < cps) {st st' : FRState}
    (hi : FRInv n cps gpr lfs mem st) (h : findOne n cps gpr lfs mem st = .ok (some st')) :
    FRInv n cps gpr lfs mem st' ∧ st'.slots.length = st.slots.length + 1 := by
  obtain ⟨hlfs, hmem, cs, last, gs, lg, sh, hp, hlen, hgpu, rfl⟩ := findOne_some h
  obtain ⟨hcount, hcfree, hcinc, hclt⟩ := pickFree_resume n.cores st.loopCore cps hcps cs last hp hlen
    (allCores st.slots) hi.fit.cores_inc hi.core_lt
  obtain ⟨hg, hgshape⟩ := gpuPick_inv hgpu ⟨hi.fit.gpus_fit, hi.gpu_lt, hi.shares, hi.whole_share, hi.whole_inc⟩
  rw [← allGpus_append st.slots { node := n.index, cores := cs, gpus := gs, lfs := lfs, mem := mem }] at hg
  have hlen' : (st.slots ++ [({ node := n.index, cores := cs, gpus := gs, lfs := lfs, mem := mem } : Slot)]).length
      = st.slots.length + 1 := by
    rw [length_append]; rfl
  refine ⟨{ fit := { cores_inc := ?_, cores_free := ?_, gpus_fit := hg.gpus_fit, lfs_fit := hlen' ▸ hlfs,
                     mem_fit := hlen' ▸ hmem, shape := ?_ },
            core_lt := ?_, gpu_lt := hg.gpu_lt, shares := hg.shares, whole_share := hg.whole_share,
            whole_inc := hg.whole_inc }, hlen'⟩
  · rw [allCores_append]; exact hcinc
  · rw [allCores_append]; exact forall_mem_append.mpr ⟨hi.fit.cores_free, fun c hc => (hcfree c hc).2⟩
  · exact forall_mem_append.mpr ⟨hi.fit.shape, forall_mem_singleton.mpr ⟨rfl, hcount, rfl, rfl, hgshape⟩⟩
  · rw [allCores_append]; exact hclt

theorem findLoop_fit {n : NodeSt} {cps gpr lfs mem : Nat} (hcps : 0 < cps) {k : Nat} {st : FRState} {slots : List Slot}
    (hi : FRInv n cps gpr lfs mem st) (h : findLoop n cps gpr lfs mem k st = .ok slots) :
    NodeFit n cps gpr lfs mem slots ∧ slots.length ≤ st.slots.length + k := by
  fun_induction findLoop n cps gpr lfs mem k st with
  | case1 st =>
    cases h
    exact ⟨hi.fit, Nat.le_refl _⟩
  | case2 k st e hf => cases h
  | case3 k st hf =>
    cases h
    exact ⟨hi.fit, Nat.le_add_right _ _⟩
  | case4 k st st' hf ih =>
    obtain ⟨hi', hl⟩ := findOne_inv hcps hi hf
    obtain ⟨hfit, hlen⟩ := ih hi' h
    rw [hl, Nat.add_assoc, Nat.add_comm 1 k] at hlen
    exact ⟨hfit, hlen⟩

theorem findResources_fit {n : NodeSt} {nSlots cps gpr lfs mem : Nat} {p : Bool} {slots : List Slot}
    (hcps : 0 < cps) (hl : lfs ≠ 0 → (0 : Int) ≤ n.lfs) (hm : mem ≠ 0 → (0 : Int) ≤ n.mem)
    (h : findResources n nSlots cps gpr lfs mem p = .ok (some slots)) :
    NodeFit n cps gpr lfs mem slots ∧ slots.length ≤ nSlots ∧ (p = false → slots.length = nSlots) := by
  revert h
  fun_cases findResources n nSlots cps gpr lfs mem p with
  | case1 | case2 => intro h; cases h
  | case3 sl hf hc =>
    intro h
    cases h
    obtain ⟨hfit, hlen⟩ := findLoop_fit hcps (FRInv_init n cps gpr lfs mem hl hm) hf
    rw [show ({} : FRState).slots.length = 0 from rfl, Nat.zero_add] at hlen
    exact ⟨hfit, hlen, fun hp => Nat.le_antisymm hlen (Nat.le_of_not_lt (fun x => hc ⟨by rw [hp]; decide, x⟩))⟩

/-- what `_change_slot_states` does to one occupation list -/
def foldSet (l : List Occ) (idxs : List Nat) (v : Occ) : List Occ := idxs.foldl (fun cs i => setAt cs i v) l

def occOf (b : Bool) : Occ := if b then .busy else .free

theorem applySlot_cores (n : NodeSt) (sl : Slot) (b : Bool) : (applySlot n sl b).cores = foldSet n.cores sl.cores (occOf b) := rfl

theorem applySlot_gpus (n : NodeSt) (sl : Slot) (b : Bool) :
    (applySlot n sl b).gpus = foldSet n.gpus (sl.gpus.map (·.1)) (occOf b) := by
  simp only [applySlot, foldSet, foldl_map, occOf]

theorem foldSet_append (l : List Occ) (a b : List Nat) (v : Occ) : foldSet (foldSet l a v) b v = foldSet l (a ++ b) v :=
  (foldl_append ..).symm

theorem foldSet_get (l : List Occ) (idxs : List Nat) (v : Occ) (j : Nat) :
    (foldSet l idxs v)[j]? = if j ∈ idxs then (l[j]?).map (fun _ => v) else l[j]? :=
  ListAux.getElem?_foldl_set idxs l v j

theorem foldSet_inverse (l : List Occ) (idxs : List Nat) (hfree : ∀ i ∈ idxs, l[i]? = some Occ.free) :
    foldSet (foldSet l idxs .busy) idxs .free = l := by
  apply ext_getElem?
  intro j
  rw [foldSet_get, foldSet_get]
  by_cases hj : j ∈ idxs
  · rw [if_pos hj, if_pos hj, hfree j hj]
    rfl
  · rw [if_neg hj, if_neg hj]

theorem NodeSt.ext {a b : NodeSt} (hi : a.index = b.index) (hc : a.cores = b.cores) (hg : a.gpus = b.gpus)
    (hl : a.lfs = b.lfs) (hm : a.mem = b.mem) : a = b := by
  cases a
  cases b
  congr

theorem applySlot_inverse (n : NodeSt) (sl : Slot)
    (hc : ∀ i ∈ sl.cores, n.cores[i]? = some Occ.free)
    (hg : ∀ g ∈ sl.gpus, n.gpus[g.1]? = some Occ.free) :
    applySlot (applySlot n sl true) sl false = n := by
  refine NodeSt.ext rfl (foldSet_inverse n.cores sl.cores hc) ?_ (Int.sub_add_cancel n.lfs sl.lfs) (Int.sub_add_cancel n.mem sl.mem)
  rw [applySlot_gpus, applySlot_gpus]
  exact foldSet_inverse n.gpus _ (forall_mem_map.mpr hg)

end RPVerif.Sched
