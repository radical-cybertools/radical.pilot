import RPVerif.Lemmas.States
/-
"No notification is ignored": after a batch a task is at least as far as every notification of the batch that named it
(values of `_task_state_values`; the final states share the top value).
-/
namespace RPVerif.States

theorem one_reaches {N : Nat} (t : Task) (u : Upd) (hu : u.state.WF N) :
    u.state.val N ≤ (one N t u).1.state.val N := by
  rw [one_state t u hu]
  split
  · exact Nat.le_refl _
  · next h => exact Nat.le_of_not_lt h

theorem one_mono {N : Nat} (t : Task) (u : Upd) (hu : u.state.WF N) :
    t.state.val N ≤ (one N t u).1.state.val N := by
  rw [one_state t u hu]
  split
  · next h => exact Nat.le_of_lt h
  · exact Nat.le_refl _

theorem foldOne_mono {N : Nat} (us : List Upd) (hw : ∀ u ∈ us, u.state.WF N) (t : Task) :
    t.state.val N ≤ (foldOne N t us).1.state.val N :=
  foldOne_preserves (P := fun s => t.state.val N ≤ s.state.val N) us hw
    (fun u hu _ s _ h => Nat.le_trans h (one_mono s u (hw u hu))) t rfl (Nat.le_refl _)

theorem foldOne_reaches {N : Nat} (us : List Upd) (hw : ∀ u ∈ us, u.state.WF N) (t : Task)
    (u : Upd) (hu : u ∈ us) (hid : u.uid = t.uid) :
    u.state.val N ≤ (foldOne N t us).1.state.val N := by
  obtain ⟨pre, post, rfl⟩ := List.append_of_mem hu
  have hwpre : ∀ x ∈ pre, x.state.WF N := fun x hx => hw x (List.mem_append_left _ hx)
  have hwpost : ∀ x ∈ post, x.state.WF N := fun x hx => hw x (List.mem_append_right _ (List.mem_cons_of_mem _ hx))
  have hid' : u.uid = (foldOne N t pre).1.uid := hid.trans (foldOne_uid_eq pre hwpre t).symm
  rw [foldOne_append, foldOne_cons_pos post hid']
  exact Nat.le_trans (one_reaches _ u (hw u hu)) (foldOne_mono post hwpost _)

theorem one_inv {N : Nat} (f : St) (t : Task) (u : Upd) (hu : u.state.WF N) (hfu : u.state.isFinal = true → u.state = f)
    (h : t.state.isFinal = false ∨ t.state = f) :
    (one N t u).1.state.isFinal = false ∨ (one N t u).1.state = f := by
  rw [one_state t u hu]
  split
  · cases hfin : u.state.isFinal with
    | false => exact .inl rfl
    | true => exact .inr (hfu hfin)
  · exact h

theorem foldOne_inv {N : Nat} (f : St) (hf : f.isFinal = true) (us : List Upd) (hw : ∀ u ∈ us, u.state.WF N)
    (hall : ∀ u ∈ us, u.state.isFinal = true → u.state = f) :
    ∀ t : Task, (t.state.isFinal = false ∨ t.state = f) →
      ((foldOne N t us).1.state.isFinal = false ∨ (foldOne N t us).1.state = f) :=
  fun t h => foldOne_preserves us hw (fun u hu _ s _ hs => one_inv f s u (hw u hu) (hall u hu) hs) t rfl h

theorem foldOne_stays {N : Nat} (f : St) (hf : f.isFinal = true) (us : List Upd) (hw : ∀ u ∈ us, u.state.WF N)
    (t : Task) (h : t.state = f) : (foldOne N t us).1.state = f := by
  refine foldOne_preserves (P := fun s => s.state = f) us hw (fun u hu _ s _ hs => ?_) t rfl h
  rw [one_state s u (hw u hu), if_neg (Nat.not_lt_of_le (val_le_of_final (hw u hu) (hs ▸ hf)))]
  exact hs

/-- **the client ends in `f`**: a non-final task that receives, in any order and among any other
    notifications, at least one notification of the final state `f` and no other final state -/
theorem foldOne_final {N : Nat} (f : St) (hf : f.isFinal = true) (us : List Upd) (hw : ∀ u ∈ us, u.state.WF N)
    (t : Task) (ht : t.state.isFinal = false) (htw : t.state.WF N)
    (hall : ∀ u ∈ us, u.uid = t.uid → u.state.isFinal = true → u.state = f)
    (hex : ∃ u ∈ us, u.uid = t.uid ∧ u.state = f) :
    (foldOne N t us).1.state = f := by
  obtain ⟨uf, huf, huid, hst⟩ := hex
  obtain ⟨pre, post, rfl⟩ := List.append_of_mem huf
  have hwpre : ∀ u ∈ pre, u.state.WF N := fun u hu => hw u (List.mem_append_left _ hu)
  have hwpost : ∀ u ∈ post, u.state.WF N := fun u hu => hw u (List.mem_append_right _ (List.mem_cons_of_mem _ hu))
  have h1 : (foldOne N t pre).1.state.isFinal = false ∨ (foldOne N t pre).1.state = f :=
    foldOne_preserves pre hwpre
      (fun u hu hk s _ hs => one_inv f s u (hwpre u hu) (hall u (List.mem_append_left _ hu) hk) hs) t rfl (.inl ht)
  have huid1 : uf.uid = (foldOne N t pre).1.uid := huid.trans (foldOne_uid_eq pre hwpre t).symm
  -- `uf` puts it in `f`, and there it stays
  rw [foldOne_append, foldOne_cons_pos post huid1]
  apply foldOne_stays f hf post hwpost
  rw [one_state _ uf (hw uf huf), hst]
  split
  · rfl
  · rename_i hge
    rcases h1 with h1 | h1
    · rw [val_final hf] at hge
      exact absurd (val_lt_of_nonfinal (foldOne_wf pre hwpre t htw) h1) hge
    · exact h1

end RPVerif.States
