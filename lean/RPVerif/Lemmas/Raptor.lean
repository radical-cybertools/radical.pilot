import RPVerif.Model.Raptor
import RPVerif.Lemmas.ListAux
/-! Lemmas for C20: the allocator of one raptor worker, the scheduler's raptor backlog, the environment of child processes -/
namespace RPVerif.Raptor
open List

theorem pick_mem {l : List Bool} {i k j : Nat} (h : j ∈ pick l i k) : ∃ m, j = i + m ∧ l[m]? = some false := by
  fun_induction pick l i k with
  | case1 | case2 => cases h
  | case3 bs i k ih =>
    obtain ⟨m, rfl, hm⟩ := ih h
    exact ⟨m + 1, Nat.add_right_comm i 1 m, hm⟩
  | case4 b bs i k hb ih =>
    obtain rfl : b = false := Bool.eq_false_iff.mpr hb
    rcases mem_cons.mp h with rfl | h
    · exact ⟨0, rfl, rfl⟩
    · obtain ⟨m, rfl, hm⟩ := ih h
      exact ⟨m + 1, Nat.add_right_comm i 1 m, hm⟩

theorem pick_sorted (l : List Bool) (i k : Nat) : (pick l i k).Pairwise (· < ·) := by
  fun_induction pick l i k with
  | case1 | case2 => exact Pairwise.nil
  | case3 bs i k ih => exact ih
  | case4 b bs i k hb ih =>
    refine pairwise_cons.mpr ⟨fun j hj => ?_, ih⟩
    obtain ⟨m, rfl, -⟩ := pick_mem hj
    exact Nat.lt_of_lt_of_le (Nat.lt_succ_self i) (Nat.le_add_right _ m)

theorem pick_length (l : List Bool) (i k : Nat) (h : k ≤ countFree l) : (pick l i k).length = k := by
  fun_induction pick l i k with
  | case1 => exact (Nat.le_zero.mp h).symm
  | case2 => rfl
  | case3 bs i k ih => exact ih h
  | case4 b bs i k hb ih =>
    obtain rfl : b = false := Bool.eq_false_iff.mpr hb
    exact congrArg (· + 1) (ih (by simpa [countFree] using h))

theorem setAll_length (l : List Bool) (idx : List Nat) (v : Bool) : (setAll l idx v).length = l.length :=
  ListAux.length_foldl_set idx l v

theorem setAll_get (l : List Bool) (idx : List Nat) (v : Bool) (j : Nat) :
    (setAll l idx v)[j]? = if j ∈ idx then (l[j]?).map (fun _ => v) else l[j]? :=
  ListAux.getElem?_foldl_set idx l v j

theorem alloc_ok {r r' : Res} {c g : Nat} {s : Slots} (h : alloc r c g = .ok r' s) :
    r' = { cores := setAll r.cores (pick r.cores 0 c) true, gpus := setAll r.gpus (pick r.gpus 0 g) true }
    ∧ s = { cores := pick r.cores 0 c, gpus := pick r.gpus 0 g }
    ∧ c ≤ countFree r.cores ∧ g ≤ countFree r.gpus := by
  unfold alloc at h
  by_cases h1 : c < 1 ∨ c > r.cores.length ∨ g > r.gpus.length
  · rw [if_pos h1] at h
    cases h
  by_cases h2 : c > countFree r.cores ∨ g > countFree r.gpus
  · rw [if_neg h1, if_pos h2] at h
    cases h
  rw [if_neg h1, if_neg h2] at h
  injection h with hr hs
  exact ⟨hr.symm, hs.symm, Nat.le_of_not_lt fun hc => h2 (.inl hc), Nat.le_of_not_lt fun hg => h2 (.inr hg)⟩

theorem dealloc_eq_some {r r' : Res} {s : Slots} :
    dealloc r s = some r' ↔
      (∀ i ∈ s.cores, r.cores[i]? = some true) ∧ (∀ i ∈ s.gpus, r.gpus[i]? = some true)
      ∧ r' = { cores := setAll r.cores s.cores false, gpus := setAll r.gpus s.gpus false } := by
  have hget (l : List Bool) (i : Nat) : l.getD i false = true ↔ l[i]? = some true := by
    rw [getD_eq_getElem?_getD]
    cases l[i]? <;> simp
  unfold dealloc
  simp only [all_eq_true, hget, Option.ite_none_right_eq_some, Option.some.injEq, and_assoc]
  exact and_congr_right fun _ => and_congr_right fun _ => eq_comm

/-- busy flags are exactly the indices held by the live requests, and no index is held twice -/
def AInv (flags : List Bool) (live : List (List Nat)) : Prop :=
  (∀ j, flags[j]? = some true ↔ ∃ s ∈ live, j ∈ s) ∧ live.Pairwise (fun a b => ∀ j, j ∈ a → j ∉ b)

theorem ainv_init (n : Nat) : AInv (List.replicate n false) [] := by
  refine ⟨fun j => ⟨fun h => ?_, fun ⟨_, hs, _⟩ => absurd hs not_mem_nil⟩, Pairwise.nil⟩
  rw [getElem?_replicate] at h
  split at h <;> cases h

theorem ainv_busy {flags : List Bool} {live : List (List Nat)} {s : List Nat} {j : Nat}
    (h : AInv flags live) (hs : s ∈ live) (hj : j ∈ s) : flags[j]? = some true :=
  (h.1 j).mpr ⟨s, hs, hj⟩

theorem pick_free {flags : List Bool} {k j : Nat} (hj : j ∈ pick flags 0 k) : flags[j]? = some false := by
  obtain ⟨m, rfl, hm⟩ := pick_mem hj
  rwa [Nat.zero_add]

theorem pick_not_live {flags : List Bool} {live : List (List Nat)} {s : List Nat} {k j : Nat}
    (h : AInv flags live) (hj : j ∈ pick flags 0 k) (hs : s ∈ live) : j ∉ s :=
  fun hjs => nomatch (pick_free hj).symm.trans (ainv_busy h hs hjs)

theorem exists_mem_skip {l1 l2 : List (List Nat)} {x : List Nat} {j : Nat} (hj : j ∉ x) :
    (∃ s ∈ l1 ++ x :: l2, j ∈ s) ↔ ∃ s ∈ l1 ++ l2, j ∈ s := by
  simp only [mem_append, mem_cons, or_and_right, exists_or, exists_eq_left, hj, false_or]

theorem ainv_alloc (flags : List Bool) (live : List (List Nat)) (k : Nat) (h : AInv flags live) :
    AInv (setAll flags (pick flags 0 k) true) (pick flags 0 k :: live) := by
  refine ⟨fun j => ?_, pairwise_cons.mpr ⟨fun s hs j hj => pick_not_live h hj hs, h.2⟩⟩
  rw [setAll_get]
  by_cases hj : j ∈ pick flags 0 k
  · rw [if_pos hj, pick_free hj]
    exact iff_of_true rfl ⟨_, mem_cons_self, hj⟩
  · rw [if_neg hj, h.1 j]
    exact (exists_mem_skip (l1 := []) hj).symm

theorem ainv_dealloc (flags : List Bool) (l1 l2 : List (List Nat)) (s : List Nat) (h : AInv flags (l1 ++ s :: l2)) :
    AInv (setAll flags s false) (l1 ++ l2) := by
  obtain ⟨-, hp2, hp12⟩ := pairwise_append.mp h.2
  refine ⟨fun j => ?_, h.2.sublist ((Sublist.refl l1).append (sublist_cons_self s l2))⟩
  rw [setAll_get]
  by_cases hj : j ∈ s
  · -- `s` shares nothing with the live sets before it (`hp12`) nor after it (`hp2`)
    rw [if_pos hj]
    refine iff_of_false (by cases flags[j]? <;> simp) ?_
    rintro ⟨s', hs', hjs'⟩
    rcases mem_append.mp hs' with h1 | h2
    · exact hp12 s' h1 s mem_cons_self j hjs' hj
    · exact (pairwise_cons.mp hp2).1 s' h2 j hj hjs'
  · rw [if_neg hj, h.1 j]
    exact exists_mem_skip hj

theorem ainv_empty {flags : List Bool} {n : Nat} (h : AInv flags []) (hl : flags.length = n) :
    flags = List.replicate n false := by
  refine eq_replicate_iff.mpr ⟨hl, fun b hb => ?_⟩
  obtain ⟨j, hj⟩ := getElem?_of_mem hb
  cases b with
  | false => rfl
  | true =>
    obtain ⟨_, hs, _⟩ := (h.1 j).mp hj
    cases hs

/-! ### the backlog of the scheduler -/

abbrev BL := List (Option Nat × List Nat)

theorem blGet_cons (e : Option Nat × List Nat) (es : BL) (k : Option Nat) :
    blGet (e :: es) k = if e.1 = k then e.2 else blGet es k := by
  unfold blGet
  rw [find?_cons]
  by_cases h : e.1 = k <;> simp [h]

theorem blGet_del (b : BL) (k k' : Option Nat) : blGet (blDel b k) k' = if k' = k then [] else blGet b k' := by
  unfold blGet blDel
  rw [ListAux.find?_filter_ne]
  by_cases h : k' = k
  · rw [if_pos h, if_pos h]
  · rw [if_neg h, if_neg h]

theorem blGet_map (f : Option Nat × List Nat → Option Nat × List Nat) (hf : ∀ e, (f e).1 = e.1) (b : BL) (k : Option Nat) :
    blGet (b.map f) k = match b.find? (fun e => e.1 = k) with
                        | some e => (f e).2
                        | none   => [] := by
  have : (fun e => decide (e.1 = k)) ∘ f = fun e => decide (e.1 = k) := funext fun e => by simp [hf]
  unfold blGet
  rw [find?_map, this]
  cases find? _ b <;> rfl

theorem blGet_filter (b : BL) (k : Option Nat) (p : Nat → Bool) :
    blGet (b.map (fun e => (e.1, e.2.filter p))) k = (blGet b k).filter p := by
  rw [blGet_map (fun e => (e.1, e.2.filter p)) (fun _ => rfl)]
  unfold blGet
  cases find? _ b <;> rfl

theorem blGet_of_not_mem (b : BL) (k : Option Nat) (h : k ∉ b.map (·.1)) : blGet b k = [] := by
  unfold blGet
  rw [find?_eq_none.mpr fun e he hk => h (mem_map.mpr ⟨e, he, of_decide_eq_true hk⟩)]

theorem blGet_add (b : BL) (k k' : Option Nat) (ts : List Nat) :
    blGet (blAdd b k ts) k' = if k' = k then blGet b k ++ ts else blGet b k' := by
  by_cases hany : b.any (fun e => e.1 = k) = true
  · rw [blAdd, if_pos hany, blGet_map (fun e => if e.1 = k then (e.1, e.2 ++ ts) else e) (fun e => by split <;> rfl)]
    unfold blGet
    cases hfind : b.find? (fun e => e.1 = k') with
    | none =>
      have hk : k' ≠ k := by
        rintro rfl
        obtain ⟨e, he, hek⟩ := any_eq_true.mp hany
        exact find?_eq_none.mp hfind e he hek
      rw [if_neg hk]
    | some e =>
      have he : e.1 = k' := by simpa using find?_some hfind
      by_cases hk : k' = k
      · subst hk
        rw [if_pos rfl, hfind]
        exact congrArg Prod.snd (if_pos he)
      · rw [if_neg hk]
        exact congrArg Prod.snd (if_neg (he ▸ hk))
  · have hnone : b.find? (fun e => e.1 = k) = none :=
      find?_eq_none.mpr fun e he hk => hany (any_eq_true.mpr ⟨e, he, hk⟩)
    rw [blAdd, if_neg hany]
    unfold blGet
    rw [find?_append, find?_singleton]
    by_cases hk : k' = k
    · subst hk
      rw [if_pos rfl, hnone, if_pos (decide_eq_true rfl)]
      rfl
    · rw [if_neg hk, if_neg (fun e => hk (of_decide_eq_true e).symm), Option.or_none]

/-- a key of the backlog is served when its master - for '*' (`none`): some master - is registered -/
def served (qs : List Nat) : Option Nat → Prop
  | some m => m ∈ qs
  | none   => qs ≠ []

/-- no request waits for a master that is registered -/
def FInv (s : Fwd) : Prop :=
  (∀ m ∈ s.queues, blGet s.backlog (some m) = []) ∧ (s.queues ≠ [] → blGet s.backlog none = [])

theorem finv_iff (s : Fwd) : FInv s ↔ ∀ k, served s.queues k → blGet s.backlog k = [] :=
  ⟨fun h k => match k with
    | some m => h.1 m
    | none   => h.2,
   fun h => ⟨fun m => h (some m), h none⟩⟩

theorem served_register {qs : List Nat} {m : Nat} {k : Option Nat}
    (h : served (if m ∈ qs then qs else qs ++ [m]) k) : k = some m ∨ k = none ∨ served qs k := by
  split at h
  · exact .inr (.inr h)
  · match k, h with
    | none, _ => exact .inr (.inl rfl)
    | some m', h =>
      rcases mem_append.mp h with h | h
      · exact .inr (.inr h)
      · exact .inl (congrArg some (mem_singleton.mp h))

theorem served_filter {qs : List Nat} {p : Nat → Bool} {k : Option Nat} (h : served (qs.filter p) k) : served qs k :=
  match k, h with
  | none, h => fun e => h (by subst e; rfl)
  | some _, h => (mem_filter.mp h).1

theorem map_snd_pair (m : Nat) (l : List Nat) : (l.map fun t => (m, t)).map (·.2) = l := by
  rw [map_map]
  exact map_id'' (fun _ => rfl) l

theorem rrFrom_snd (qs : List Nat) (hq : qs ≠ []) (ts : List Nat) (i : Nat) : (rrFrom qs i ts).map (·.2) = ts := by
  fun_induction rrFrom qs i ts with
  | case1 => rfl
  | case2 i t ts ih =>
    have hlt : i % qs.length < qs.length := Nat.mod_lt _ (length_pos_iff.mpr hq)
    rw [getElem?_eq_getElem hlt, map_append, ih]
    rfl

theorem roundRobin_snd (qs : List Nat) (hq : qs ≠ []) (ts : List Nat) : (roundRobin qs ts).map (·.2) = ts :=
  rrFrom_snd qs hq ts 0

theorem rrFrom_fst (qs : List Nat) (ts : List Nat) (i : Nat) : ∀ e ∈ rrFrom qs i ts, e.1 ∈ qs := by
  fun_induction rrFrom qs i ts with
  | case1 => exact forall_mem_nil _
  | case2 i t ts ih =>
    intro e he
    rcases mem_append.mp he with he | he
    · cases hq : qs[i % qs.length]? with
      | none => rw [hq] at he; cases he
      | some q =>
        rw [hq] at he
        obtain rfl := mem_singleton.mp he
        exact mem_of_getElem? hq
    · exact ih e he

/-- to whom a group of a drain is handed over does not matter here -/
theorem fwdIncoming_cons (s : Fwd) (k : Option Nat) (ts : List Nat) (gs : List (Option Nat × List Nat)) :
    (∃ d, d.map (·.2) = ts ∧ fwdIncoming s ((k, ts) :: gs) = fwdIncoming { s with delivered := s.delivered ++ d } gs)
    ∨ (¬ served s.queues k
        ∧ fwdIncoming s ((k, ts) :: gs) = fwdIncoming { s with backlog := blAdd s.backlog k ts } gs) := by
  cases k with
  | some m =>
    by_cases hm : m ∈ s.queues
    · exact .inl ⟨ts.map fun t => (m, t), map_snd_pair m ts, by simp only [fwdIncoming, if_pos hm]⟩
    · exact .inr ⟨hm, by simp only [fwdIncoming, if_neg hm]⟩
  | none =>
    by_cases hq : s.queues ≠ []
    · exact .inl ⟨roundRobin s.queues ts, roundRobin_snd s.queues hq ts, by simp only [fwdIncoming, if_pos hq]⟩
    · exact .inr ⟨hq, by simp only [fwdIncoming, if_neg hq]⟩

theorem finv_incoming (gs : List (Option Nat × List Nat)) : ∀ s, FInv s → FInv (fwdIncoming s gs) := by
  induction gs with
  | nil => exact fun s h => h
  | cons g gs ih =>
    intro s h
    obtain ⟨k, ts⟩ := g
    rcases fwdIncoming_cons s k ts gs with ⟨d, -, e⟩ | ⟨hk, e⟩ <;> rw [e]
    · exact ih _ h
    · refine ih _ ((finv_iff _).mpr fun k' hk' => ?_)
      have hne : k' ≠ k := fun e => hk (e ▸ hk')
      exact (blGet_add _ _ _ _).trans ((if_neg hne).trans ((finv_iff s).mp h k' hk'))

theorem finv_step (s : Fwd) (op : FOp) (h : FInv s) : FInv (fwdStep s op) := by
  rw [finv_iff] at h ⊢
  intro k hk
  cases op with
  | incoming gs => exact (finv_iff _).mp (finv_incoming gs s ((finv_iff s).mpr h)) k hk
  | register m =>
    show blGet (blDel (blDel s.backlog (some m)) none) k = []
    rw [blGet_del, blGet_del]
    -- the two keys the new master serves are deleted; any other key was served before
    rcases served_register hk with rfl | rfl | hs
    · rw [if_pos rfl, ite_self]
    · rw [if_pos rfl]
    · rw [h k hs, ite_self, ite_self]
  | unregister m =>
    show blGet (blDel s.backlog (some m)) k = []
    rw [blGet_del, h k (served_filter hk), ite_self]
  | cancel us =>
    show blGet (s.backlog.map fun e => (e.1, e.2.filter fun t => decide (t ∉ us))) k = []
    rw [blGet_filter, h k hk]
    rfl

/-! ### every request is in exactly one place -/

/-- the counting lemmas below need it: `blGet` reads the first entry of a key, `blDel` and `blAdd` touch every entry of it -/
def KeysNodup (b : BL) : Prop := (b.map (·.1)).Nodup

def waiting (b : BL) : List Nat := b.flatMap (·.2)

theorem waiting_cons (e : Option Nat × List Nat) (es : BL) : waiting (e :: es) = e.2 ++ waiting es :=
  flatMap_cons

theorem keysNodup_blDel (b : BL) (k : Option Nat) (hn : KeysNodup b) : KeysNodup (blDel b k) :=
  hn.sublist (filter_sublist.map _)

theorem count_blDel (b : BL) (k : Option Nat) (t : Nat) (hn : KeysNodup b) :
    (waiting (blDel b k)).count t + (blGet b k).count t = (waiting b).count t := by
  induction b with
  | nil => rfl
  | cons e es ih =>
    obtain ⟨hnot, hn'⟩ := nodup_cons.mp hn
    have ih := ih hn'
    rw [blGet_cons, waiting_cons, count_append]
    unfold blDel at ih ⊢
    by_cases he : e.1 = k
    · rw [filter_cons_of_neg (by simpa using he), if_pos he]
      rw [blGet_of_not_mem es k (he ▸ hnot)] at ih
      exact (Nat.add_comm _ _).trans (congrArg (count t e.2 + ·) ih)
    · rw [filter_cons_of_pos (by simpa using he), if_neg he, waiting_cons, count_append, Nat.add_assoc, ih]

theorem keysNodup_blAdd (b : BL) (k : Option Nat) (ts : List Nat) (hn : KeysNodup b) : KeysNodup (blAdd b k ts) := by
  unfold KeysNodup at *
  by_cases hany : b.any (fun e => e.1 = k) = true
  · rw [blAdd, if_pos hany]
    have hkeys : (b.map fun e => if e.1 = k then (e.1, e.2 ++ ts) else e).map (·.1) = b.map (·.1) := by
      rw [map_map]
      exact map_congr_left fun e _ => by dsimp only [Function.comp]; split <;> rfl
    rwa [hkeys]
  · rw [blAdd, if_neg hany, map_append]
    refine nodup_append.mpr ⟨hn, nodup_cons.mpr ⟨not_mem_nil, nodup_nil⟩, fun a ha c hc hac => hany ?_⟩
    obtain ⟨e, he, rfl⟩ := mem_map.mp ha
    exact any_eq_true.mpr ⟨e, he, by simpa using hac.trans (mem_singleton.mp hc)⟩

theorem count_blAdd (b : BL) (k : Option Nat) (ts : List Nat) (t : Nat) (hn : KeysNodup b) :
    (waiting (blAdd b k ts)).count t = (waiting b).count t + ts.count t := by
  by_cases hany : b.any (fun e => e.1 = k) = true
  · rw [blAdd, if_pos hany]
    induction b with
    | nil => cases hany
    | cons e es ih =>
      obtain ⟨hnot, hn'⟩ := nodup_cons.mp hn
      rw [map_cons, waiting_cons, waiting_cons, count_append, count_append]
      by_cases he : e.1 = k
      · have hes : es.map (fun x => if x.1 = k then (x.1, x.2 ++ ts) else x) = es :=
          (map_congr_left fun x hx => if_neg fun hk => hnot (mem_map.mpr ⟨x, hx, hk.trans he.symm⟩)).trans (map_id' es)
        rw [if_pos he, hes, count_append, Nat.add_right_comm]
      · rw [any_cons, decide_eq_false he, Bool.false_or] at hany
        rw [if_neg he, ih hn' hany, Nat.add_assoc]
  · rw [blAdd, if_neg hany, waiting, flatMap_append, count_append, flatMap_cons, flatMap_nil, append_nil]
    rfl

/-- in how many places request `t` is: delivered to a master, failed, canceled, or waiting -/
def cnt (s : Fwd) (t : Nat) : Nat :=
  (s.delivered.map (·.2)).count t + s.failed.count t + s.canceled.count t + (waiting s.backlog).count t

theorem count_cancel_split (b : BL) (us : List Nat) (t : Nat) :
    (waiting (b.map (fun e => (e.1, e.2.filter (fun x => decide (x ∉ us)))))).count t
      + (b.flatMap (fun e => e.2.filter (fun x => decide (x ∈ us)))).count t = (waiting b).count t := by
  induction b with
  | nil => rfl
  | cons e es ih =>
    rw [map_cons, waiting_cons, waiting_cons, flatMap_cons, count_append, count_append, count_append, ← ih,
      ← ListAux.count_filter_add (fun x => decide (x ∈ us)) e.2 t]
    simp only [decide_not]
    omega

theorem keysNodup_cancel (b : BL) (p : Nat → Bool) (hn : KeysNodup b) : KeysNodup (b.map (fun e => (e.1, e.2.filter p))) := by
  unfold KeysNodup at *
  rwa [map_map]

/-- the requests that came in with the drains of a history -/
def arrived : List FOp → List Nat
  | []                  => []
  | .incoming gs :: ops => gs.flatMap (·.2) ++ arrived ops
  | _ :: ops            => arrived ops

theorem cnt_incoming (gs : List (Option Nat × List Nat)) (t : Nat) : ∀ s, KeysNodup s.backlog →
    cnt (fwdIncoming s gs) t = cnt s t + (gs.flatMap (·.2)).count t ∧ KeysNodup (fwdIncoming s gs).backlog := by
  induction gs with
  | nil => exact fun s hn => ⟨rfl, hn⟩
  | cons g gs ih =>
    intro s hn
    obtain ⟨k, ts⟩ := g
    rw [flatMap_cons, count_append]
    rcases fwdIncoming_cons s k ts gs with ⟨d, hd, e⟩ | ⟨-, e⟩ <;> rw [e]
    · obtain ⟨h1, h2⟩ := ih { s with delivered := s.delivered ++ d } hn
      refine ⟨?_, h2⟩
      rw [h1]
      simp only [cnt, map_append, hd, count_append]
      omega
    · obtain ⟨h1, h2⟩ := ih { s with backlog := blAdd s.backlog k ts } (keysNodup_blAdd _ _ _ hn)
      refine ⟨?_, h2⟩
      rw [h1]
      simp only [cnt, count_blAdd _ _ _ _ hn]
      omega

theorem arrived_cons (op : FOp) (ops : List FOp) : arrived (op :: ops) = arrived [op] ++ arrived ops := by
  cases op with
  | incoming gs => exact (congrArg (· ++ arrived ops) (append_nil _)).symm
  | register m | unregister m | cancel us => rfl

theorem cnt_step (s : Fwd) (op : FOp) (t : Nat) (hn : KeysNodup s.backlog) :
    cnt (fwdStep s op) t = cnt s t + (arrived [op]).count t ∧ KeysNodup (fwdStep s op).backlog := by
  cases op with
  | incoming gs =>
    rw [show arrived [.incoming gs] = gs.flatMap (·.2) from append_nil _]
    exact cnt_incoming gs t s hn
  | register m =>
    refine ⟨show cnt (fwdRegister s m) t = cnt s t from ?_, keysNodup_blDel _ _ (keysNodup_blDel _ _ hn)⟩
    have h1 := count_blDel s.backlog (some m) t hn
    have h2 := count_blDel (blDel s.backlog (some m)) none t (keysNodup_blDel _ _ hn)
    rw [blGet_del, if_neg (by simp : (none : Option Nat) ≠ some m)] at h2
    simp only [fwdRegister, cnt, map_append, map_snd_pair, count_append]
    omega
  | unregister m =>
    refine ⟨show cnt (fwdUnregister s m) t = cnt s t from ?_, keysNodup_blDel _ _ hn⟩
    have h1 := count_blDel s.backlog (some m) t hn
    simp only [fwdUnregister, cnt, count_append]
    omega
  | cancel us =>
    refine ⟨show cnt (fwdCancel s us) t = cnt s t from ?_, keysNodup_cancel _ _ hn⟩
    have h := count_cancel_split s.backlog us t
    simp only [fwdCancel, cnt, count_append]
    omega

theorem cnt_run (ops : List FOp) (t : Nat) : ∀ s, KeysNodup s.backlog →
    cnt (ops.foldl fwdStep s) t = cnt s t + (arrived ops).count t := by
  induction ops with
  | nil => exact fun s _ => rfl
  | cons op ops ih =>
    intro s hn
    obtain ⟨h1, h2⟩ := cnt_step s op t hn
    rw [foldl_cons, ih _ h2, arrived_cons, h1, count_append, Nat.add_assoc]

/-! ### the environment handed to child processes -/

theorem envGet_envSet (e : Env) (k v k' : Nat) :
    envGet (envSet e k v) k' = if k' = k then some v else envGet e k' := by
  unfold envGet envSet
  rw [ListAux.find?_cons_filter_ne]
  split <;> rfl

theorem envGet_setMany_other (r : List (Nat × Nat)) (base : Env) (k : Nat) (h : ∀ kv ∈ r, kv.1 ≠ k) :
    envGet (setMany base r) k = envGet base k :=
  foldlRecOn (motive := fun e => envGet e k = envGet base k) r _ rfl fun e he kv hkv =>
    (envGet_envSet e kv.1 kv.2 k).trans ((if_neg (h kv hkv).symm).trans he)

end RPVerif.Raptor
