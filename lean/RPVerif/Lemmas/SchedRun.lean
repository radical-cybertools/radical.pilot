import RPVerif.Lemmas.SchedInv
import RPVerif.Lemmas.SchedLift
/-!
`SInv` - the invariant `HInv` of `Lemmas/SchedInv.lean` on node map and held placements, plus the counter of active
tasks - is kept by every storey of the scheduling loop (`Lemmas/SchedLift.lean`), for every script of iterations whose
release messages name held placements (`RunOK`).
-/
namespace RPVerif.Sched
open List

def SInv (nodes0 : List NodeSt) (s : SchedSt) : Prop :=
  HInv nodes0 s.nodes s.held ∧ s.activeCnt = s.held.length

theorem SInv.congr {nodes0 : List NodeSt} {s s' : SchedSt} (h : SInv nodes0 s)
    (hn : s'.nodes = s.nodes) (hh : s'.held = s.held) (ha : s'.activeCnt = s.activeCnt) : SInv nodes0 s' := by
  unfold SInv at *
  rw [hn, hh, ha]; exact h

theorem tryAllocation_inv (c : Cfg) (nodes0 : List NodeSt) (s : SchedSt) (r : Req) (h : SInv nodes0 s) :
    SInv nodes0 (tryAllocation c s r).2 := by
  rcases hs : scheduleTask c s r with ⟨res, s1⟩
  obtain ⟨off, ch, tg, rfl⟩ := scheduleTask_writes hs
  -- the slots `schedule_task` returns can be placed on the node map
  have hp : ∀ slots, res = .ok (some slots) → Placeable s.nodes slots := fun slots hr =>
    scheduleTask_placeable c s r slots (hinv_wf nodes0 s.nodes s.held h.1) (hinv_nonneg nodes0 s.nodes s.held h.1)
      (by rw [hs]; exact hr)
  rcases tryAllocation_cases c s r hs with ⟨_, e⟩ | e | ⟨slots, hr, hc, _⟩ | ⟨slots, ns, hr, hc, e⟩
  · rw [e]; exact h
  · rw [e]; exact h
  · -- so the node map does not refuse them
    obtain ⟨ns, hns⟩ := changeSlotStates_some slots true s.nodes (hp slots hr).onNode
    cases hns.symm.trans hc
  · rw [e]
    refine ⟨hinv_alloc nodes0 s.nodes ns s.held r.uid slots h.1 (hp slots hr) hc, ?_⟩
    show s.activeCnt + 1 = ((s.held ++ [(r.uid, slots)]).length : Int)
    rw [h.2, length_append]; simp

theorem Tried.inv {c : Cfg} {nodes0 : List NodeSt} {s s' : SchedSt} (ht : Tried c s s') (h : SInv nodes0 s) :
    SInv nodes0 s' := by
  induction ht with
  | refl s => exact h
  | step r _ ih => exact ih (tryAllocation_inv c nodes0 _ r h)
  | given g _ ih => exact ih (h.congr rfl rfl rfl)

theorem waitpoolOne_inv (c : Cfg) (nodes0 : List NodeSt) (s : SchedSt) (p : Int) (h : SInv nodes0 s) :
    SInv nodes0 (waitpoolOne c s p).1 := by
  rw [waitpoolOne_eq]
  split
  · exact h
  · exact ((lazyBisect_tried c _ s).inv h).congr rfl rfl rfl

theorem scheduleWaitpool_inv (c : Cfg) (nodes0 : List NodeSt) (s : SchedSt) (h : SInv nodes0 s) :
    SInv nodes0 (scheduleWaitpool c s).1 := by
  rw [scheduleWaitpool_eq]
  exact List.foldlRecOn (motive := fun (acc : SchedSt × List Ev × Bool × Bool) => SInv nodes0 acc.1) _ _ h
    (fun acc ha p _ => waitpoolOne_inv c nodes0 acc.1 p ha)

theorem incStep_inv (c : Cfg) (nodes0 : List NodeSt) (toSched : List Req) (acc : SchedSt × List Ev × Bool) (p : Int)
    (h : SInv nodes0 acc.1) : SInv nodes0 (incStep c toSched acc p).1 := by
  simp only [incStep]
  obtain ⟨wp, ck, hw⟩ := parkTasks_writes p (incomingOne c acc.1 (incData toSched p) [] []).2.1
    (incomingOne c acc.1 (incData toSched p) [] []).1 []
  rw [hw]
  exact ((incomingOne_tried c _ acc.1 [] []).inv h).congr rfl rfl rfl

theorem scheduleIncoming_inv (c : Cfg) (nodes0 : List NodeSt) (s : SchedSt) (msgs : List Msg) (h : SInv nodes0 s) :
    SInv nodes0 (scheduleIncoming c s msgs).1 := by
  rw [(scheduleIncoming_fold c s msgs).1]
  obtain ⟨wp, hw⟩ := drainIncoming_writes msgs s [] []
  have h1 : SInv nodes0 (drainIncoming s msgs [] []).1 := by rw [hw]; exact h.congr rfl rfl rfl
  exact List.foldlRecOn (motive := fun (acc : SchedSt × List Ev × Bool) => SInv nodes0 acc.1) _ _ h1
    (fun acc ha p _ => incStep_inv c nodes0 _ acc p ha)

theorem releaseOne_given (s : SchedSt) (u : Nat) : (releaseOne s u).given = s.given := by
  obtain ⟨ns, h, e⟩ := releaseOne_writes s u
  rw [e]

/-- releasing the uids taken off the queue restores the invariant, the counter having been lowered by their number
    beforehand (as `_unschedule_completed` does) -/
theorem releaseFold_inv (nodes0 : List NodeSt) (uids : List Nat) :
    ∀ (s : SchedSt), HInv nodes0 s.nodes s.held → relOK s.given s.held uids = true →
      s.activeCnt + uids.length = s.held.length → SInv nodes0 (uids.foldl releaseOne s) := by
  induction uids with
  | nil => intro s h _ hc; exact ⟨h, by simpa using hc⟩
  | cons u us ih =>
    intro s h hok hc
    rw [foldl_cons]
    unfold relOK at hok
    cases hf : s.given.find? (fun e => e.1 = u) with
    | none => rw [hf] at hok; cases hok
    | some e =>
      rw [hf] at hok
      simp only [Bool.and_eq_true, decide_eq_true_eq] at hok
      obtain ⟨he, hrest⟩ := hok
      -- releasing `e` succeeds because its slots lie on nodes of the map
      obtain ⟨ns, hns⟩ := changeSlotStates_some e.2 false s.nodes
        (fun sl hsl => hinv_onNode nodes0 s.nodes s.held h sl (mem_flatMap.mpr ⟨e, he, hsl⟩))
      have hstep : releaseOne s u = { s with nodes := ns, held := s.held.erase e } := by
        unfold releaseOne; rw [hf]; simp only; rw [hns]
      rw [hstep]
      refine ih _ (hinv_release nodes0 s.nodes ns s.held e h he hns) hrest ?_
      have hl : (s.held.erase e).length + 1 = s.held.length := by
        rw [length_erase_of_mem he]; exact Nat.sub_add_cancel (length_pos_of_mem he)
      -- one release fewer to come, one placement fewer held
      rw [length_cons, ← hl, Int.natCast_add, Int.natCast_add, ← Int.add_assoc] at hc
      exact (Int.add_left_inj _).mp hc

theorem unscheduleCompleted_inv (nodes0 : List NodeSt) (s : SchedSt) (msgs : List (List Nat)) (h : SInv nodes0 s)
    (hok : relOK s.given s.held (drained s msgs) = true) :
    SInv nodes0 (unscheduleCompleted s msgs).1 := by
  rw [unscheduleCompleted_fst]
  exact releaseFold_inv nodes0 _ _ h.1 hok (by simp only; rw [h.2]; exact Int.sub_add_cancel _ _)

theorem loopIterA_inv (c : Cfg) (nodes0 : List NodeSt) (s : SchedSt) (res : Bool) (it : Iter) (h : SInv nodes0 s) :
    SInv nodes0 (loopIterA c s res it).1 := by
  rw [loopIterA_fst]
  apply scheduleIncoming_inv
  unfold wpPass
  split
  · exact scheduleWaitpool_inv c nodes0 _ (h.congr rfl rfl rfl)
  · exact h.congr rfl rfl rfl

/-- every iteration's release messages are well formed (see `relOK`), along the run -/
def RunOK (c : Cfg) (s : SchedSt) (res : Bool) (its : List Iter) : Prop := runOK c s res its = true

theorem runOK_cons (c : Cfg) (s : SchedSt) (res : Bool) (it : Iter) (its : List Iter) (h : RunOK c s res (it :: its)) :
    relOK (loopIterA c s res it).1.given (loopIterA c s res it).1.held (drained (loopIterA c s res it).1 it.unsched) = true
    ∧ RunOK c (loopIter c s res it).1 (loopIter c s res it).2.1 its := by
  unfold RunOK at *
  unfold runOK at h
  simpa using h

theorem runLoop_inv (c : Cfg) (nodes0 : List NodeSt) (its : List Iter) :
    ∀ (s : SchedSt) (res : Bool) (acc : List (List Ev)), SInv nodes0 s → RunOK c s res its →
      SInv nodes0 (runLoop c s res its acc).1 := by
  induction its with
  | nil => intro s _ _ h _; exact h
  | cons it its ih =>
    intro s res acc h hok
    obtain ⟨hrel, hrest⟩ := runOK_cons c s res it its hok
    rw [runLoop_cons]
    refine ih _ _ _ ?_ hrest
    rw [loopIter_fst]
    exact unscheduleCompleted_inv nodes0 _ it.unsched (loopIterA_inv c nodes0 s res it h) hrel

/-- from the idle pilot: the invariant holds after every run whose release messages are well formed -/
theorem runLoop_sinv (c : Cfg) (nodes0 : List NodeSt) (its : List Iter) (hw : NodesWF nodes0) (hnn : NonNeg nodes0)
    (hok : RunOK c { nodes := nodes0 } true its) : SInv nodes0 (runLoop c { nodes := nodes0 } true its []).1 :=
  runLoop_inv c nodes0 its _ true [] ⟨hinv_init nodes0 hw hnn, rfl⟩ hok

end RPVerif.Sched
