import RPVerif.Lemmas.TmgrSched
/-!
Backfilling: the state the scheduler has recorded for a pilot is written by `_update_pilot_states` (touchPilot) only -
a scheduling pass and the digestion of task notifications change usage figures and task lists, never the state.
So a pass that runs after the pilot part of a notification sees the states it reported (C12_mixed_window).
-/
namespace RPVerif.TmgrSched
open List

theorem bfSchedule_state (c : BFCfg) (s : S) (q : Nat) :
    stateOf (bfSchedule c s).1.pilots q = stateOf s.pilots q := by
  rw [bfSchedule_eq]
  exact bfLoop_pilots (fun ps' => stateOf ps' q = stateOf s.pilots q) s.wait
    (fun _t _ _pid _ps' _p hfound h => (stateOf_setPilot_of_state_eq hfound q).trans h) s.pilots (eligiblePids c s) rfl

theorem bfUpdateTasks_state (execVal : Nat) (us : List (Nat × Option Nat × Nat × Nat)) :
    ∀ (ps : List Pilot) (r : Bool) (q : Nat), stateOf (bfUpdateTasks execVal ps us r).1 q = stateOf ps q :=
  fun ps r q => bfUpdateTasks_pilots (fun ps' => stateOf ps' q = stateOf ps q) execVal us
    (fun _uid _pid _sv _cores _ _ps' _p hfound _ _ h => (stateOf_setPilot_of_state_eq hfound q).trans h) ps r rfl

/-- `bfPilotStates` with projections of `touchAll` in place of the `match` -/
theorem bfPilotStates_eq (anyEligible : Bool) (c : BFCfg) (s : S) (ups : List (Nat × Option Nat)) :
    bfPilotStates anyEligible c s ups
      = if bfTrigger anyEligible c (touchAll s.pilots ups).1 (touchAll s.pilots ups).2 then
          ((bfSchedule c { s with pilots := (touchAll s.pilots ups).1 }).1,
           (bfSchedule c { s with pilots := (touchAll s.pilots ups).1 }).2, none)
        else ({ s with pilots := (touchAll s.pilots ups).1 }, [], none) := rfl

theorem bfPilotStates_window (anyEligible : Bool) (c : BFCfg) (s : S) (ups : List (Nat × Option Nat)) :
    ∀ q ∈ fwdPids (bfPilotStates anyEligible c s ups).2.1, inWindow c (stateOf (touchAll s.pilots ups).1 q) = true := by
  intro q hq
  rw [bfPilotStates_eq] at hq
  split at hq
  · exact bfSchedule_window c _ hq
  · cases hq

theorem bfPilotStates_state (anyEligible : Bool) (c : BFCfg) (s : S) (ups : List (Nat × Option Nat)) (q : Nat) :
    stateOf (bfPilotStates anyEligible c s ups).1.pilots q = stateOf (touchAll s.pilots ups).1 q := by
  rw [bfPilotStates_eq]
  split
  · exact bfSchedule_state c _ q
  · rfl

theorem bfStep_taskStates_window (c : BFCfg) (execVal : Nat) (s : S) (tus : List (Nat × Option Nat × Nat × Nat)) :
    ∀ p ∈ fwdPids (bfStep c execVal s (.taskStates tus)).2.1, inWindow c (stateOf s.pilots p) = true := by
  intro p hp
  simp only [bfStep] at hp
  split at hp
  · cases hp
  · next ps heq =>
    have hst := bfUpdateTasks_state execVal tus s.pilots false p
    rw [heq] at hst
    rw [← hst]
    exact bfSchedule_window c _ hp
  · cases hp

theorem bfMixed_window (anyEligible : Bool) (c : BFCfg) (execVal : Nat) (s : S) (ups : List (Nat × Option Nat))
    (tus : List (Nat × Option Nat × Nat × Nat)) :
    ∀ p ∈ fwdPids (bfMixed anyEligible true c execVal s ups tus).2.1,
      inWindow c (stateOf (touchAll s.pilots ups).1 p) = true := by
  intro p hp
  have hpart := bfPilotStates_window anyEligible c s ups
  have hstate := bfPilotStates_state anyEligible c s ups
  simp only [bfMixed, if_true] at hp
  generalize bfPilotStates anyEligible c s ups = r at hp hpart hstate
  obtain ⟨s1, o1, e⟩ := r
  cases e with
  | some e => exact hpart p hp
  | none =>
    change p ∈ fwdPids (o1 ++ (bfStep c execVal s1 (.taskStates tus)).2.1) at hp
    rw [fwdPids_append, mem_append] at hp
    rcases hp with hp | hp
    · exact hpart p hp
    · rw [← hstate p]
      exact bfStep_taskStates_window c execVal s1 tus p hp

end RPVerif.TmgrSched
