import RPVerif.Lemmas.SchedLift
import RPVerif.Lemmas.ListAux
import RPVerif.Lemmas.Pool
/-!
Conservation of tasks in the agent scheduler (C04): over a whole history of the scheduling loop a task that was handed
in is, at every moment, either reported once (started, failed or canceled) or in the wait pool once.

The ledger of a uid `u` is `count u (reported events) + waiting pool u`.  Every stage of an iteration leaves it
unchanged except for the tasks with uid `u` it is handed, as long as `u` is handed in at most once in the history (`Keeps`).
-/
namespace RPVerif.Sched
open List

def evUids (evs : List Ev) : List Nat := evs.map (fun e => match e with | .adv u _ => u)
def uids (ts : List Req) : List Nat := ts.map (·.uid)

@[simp] theorem evUids_append (a b : List Ev) : evUids (a ++ b) = evUids a ++ evUids b := by simp [evUids]
@[simp] theorem uids_append (a b : List Req) : uids (a ++ b) = uids a ++ uids b := by simp [uids]
@[simp] theorem evUids_nil : evUids [] = [] := rfl
@[simp] theorem uids_nil : uids [] = [] := rfl
@[simp] theorem uids_cons (t : Req) (ts : List Req) : uids (t :: ts) = t.uid :: uids ts := rfl

theorem count_uids_cons (t : Req) (ts : List Req) (u : Nat) :
    count u (uids (t :: ts)) = count u (uids ts) + if t.uid = u then 1 else 0 := by
  rw [uids_cons, count_cons]; simp only [beq_iff_eq]

theorem count_evUids_adv (evs : List Ev) (v : Nat) (st : String) (u : Nat) :
    count u (evUids (evs ++ [Ev.adv v st])) = count u (evUids evs) + if v = u then 1 else 0 := by
  rw [evUids_append, count_append]
  simp only [evUids, map_cons, map_nil, count_singleton, beq_iff_eq]

theorem evUids_map_adv (l : List Req) (st : String) :
    evUids (l.map (fun t => Ev.adv t.uid st)) = uids l := by
  simp [evUids, uids]

def waiting (wp : List (Int × List Req)) (u : Nat) : Nat := count u (uids (wp.flatMap (·.2)))
@[simp] theorem waiting_nil (u : Nat) : waiting [] u = 0 := rfl

theorem waiting_cons (e : Int × List Req) (wp : List (Int × List Req)) (u : Nat) :
    waiting (e :: wp) u = count u (uids e.2) + waiting wp u := by
  simp [waiting, count_append]

theorem waiting_append (a b : List (Int × List Req)) (u : Nat) : waiting (a ++ b) u = waiting a u + waiting b u := by
  simp [waiting, count_append]

/-! ### permutations: sorting, the index lists of `lazy_bisect` -/

theorem insertDesc_perm (key : Req → Int) (x : Req) (l : List Req) : (insertDesc key x l).Perm (x :: l) := by
  fun_induction insertDesc key x l
  case case1 | case2 => exact Perm.refl _
  case case3 y ys _ ih => exact (Perm.cons y ih).trans (Perm.swap x y ys)

theorem sortDesc_perm (key : Req → Int) (l : List Req) : (sortDesc key l).Perm l := by
  unfold sortDesc
  have hfold : ∀ (l acc : List Req), (l.foldl (fun acc x => insertDesc key x acc) acc).Perm (l ++ acc) := by
    intro l
    induction l with
    | nil => intro acc; exact Perm.refl _
    | cons x xs ih =>
      intro acc
      rw [foldl_cons]
      refine (ih _).trans ?_
      refine (Perm.append_left xs (insertDesc_perm key x acc)).trans ?_
      exact perm_middle
  simpa using hfold l []

theorem count_uids_perm {a b : List Req} (h : a.Perm b) (u : Nat) : count u (uids a) = count u (uids b) :=
  (h.map _).count_eq u

theorem pickIdx_range (data : List Req) : pickIdx data (List.range data.length) = data := by
  unfold pickIdx
  induction data with
  | nil => rfl
  | cons x xs ih =>
    rw [length_cons, range_succ_eq_map, filterMap_cons]
    simp only [getElem?_cons_zero, filterMap_map]
    exact congrArg (x :: ·) ih

theorem pickIdx_append (data : List Req) (a b : List Nat) : pickIdx data (a ++ b) = pickIdx data a ++ pickIdx data b := by
  simp [pickIdx, filterMap_append]

theorem pickIdx_partition (data : List Req) (b : BisSt) (h : ∀ i, cnt b i = if i < data.length then 1 else 0) (u : Nat) :
    count u (uids (pickIdx data b.good)) + count u (uids (pickIdx data b.bad)) + count u (uids (pickIdx data b.fail))
      = count u (uids data) := by
  have hp : (b.good ++ b.bad ++ b.fail).Perm (List.range data.length) := by
    rw [perm_iff_count]
    intro i
    rw [count_range, ← h i]
    simp only [cnt, count_append]
  have h2 : (pickIdx data (b.good ++ b.bad ++ b.fail)).Perm (pickIdx data (List.range data.length)) := by
    unfold pickIdx; exact hp.filterMap _
  rw [pickIdx_range] at h2
  have := count_uids_perm h2 u
  rw [pickIdx_append, pickIdx_append, uids_append, uids_append, count_append, count_append] at this
  exact this

theorem count_filter_split (l : List Req) (p q : Req → Bool) (hpq : ∀ r, q r = !p r) (u : Nat) :
    count u (uids (l.filter p)) + count u (uids (l.filter q)) = count u (uids l) := by
  rw [show q = fun r => !p r from funext hpq]
  exact ListAux.count_map_filter_add (fun r : Req => r.uid) p l u

theorem count_ranks_split (ts : List Req) (u : Nat) :
    count u (uids (ts.filter (fun t => t.ranks > 0))) + count u (uids (ts.filter (fun t => t.ranks ≤ 0)))
      = count u (uids ts) :=
  count_filter_split ts _ _ (fun r => by rw [← decide_not, decide_eq_decide]; exact Int.not_lt.symm) u

/-! ### the wait pool as a dict: what a write does to the ledger -/

theorem count_poolOf_le_waiting (wp : List (Int × List Req)) (p : Int) (u : Nat) : count u (uids (poolOf wp p)) ≤ waiting wp u := by
  induction wp with
  | nil => simp [poolOf]
  | cons e wp ih =>
    rw [poolOf_cons, waiting_cons]
    split
    · exact Nat.le_add_right _ _
    · exact Nat.le_trans ih (Nat.le_add_left _ _)

theorem waiting_map_key (wp : List (Int × List Req)) (e : Int × List Req) (g : Int × List Req → Int × List Req)
    (hk : KeysOK wp) (he : e ∈ wp) (u : Nat) :
    waiting (wp.map (fun x => if x.1 = e.1 then g x else x)) u + count u (uids e.2)
      = waiting wp u + count u (uids (g e).2) := by
  induction wp with
  | nil => cases he
  | cons x wp ih =>
    have hx : ∀ y ∈ wp, y.1 ≠ x.1 := fun y hy heq => (nodup_cons.mp hk).1 (mem_map.mpr ⟨y, hy, heq⟩)
    rw [map_cons, waiting_cons, waiting_cons]
    rcases mem_cons.mp he with h | h
    · -- behind the entry no key is `e.1`: nothing changes there
      subst h
      have htail : wp.map (fun y => if y.1 = e.1 then g y else y) = wp :=
        (map_congr_left (g := id) (fun y hy => if_neg (hx y hy))).trans (map_id wp)
      rw [if_pos rfl, htail]
      rw [Nat.add_right_comm, Nat.add_comm (count u (uids (g e).2)), Nat.add_right_comm]
    · rw [if_neg (fun heq => hx e h heq.symm), Nat.add_assoc, ih (nodup_cons.mp hk).2 h, Nat.add_assoc]

/-- `self._waitpool[p] = l` -/
theorem waiting_setPool (wp : List (Int × List Req)) (p : Int) (l : List Req) (hk : KeysOK wp) (u : Nat) :
    waiting (setPool wp p l) u + count u (uids (poolOf wp p)) = waiting wp u + count u (uids l) := by
  unfold setPool
  split
  · rename_i h
    obtain ⟨e, he, hp⟩ := any_eq_true.mp h
    rw [← of_decide_eq_true hp, poolOf_mem wp e hk he]
    exact waiting_map_key wp e (fun _ => (e.1, l)) hk he u
  · rename_i h
    rw [waiting_append, poolOf_notin wp p (fun e he heq => h (any_eq_true.mpr ⟨e, he, by simp [heq]⟩))]
    simp [waiting]

theorem any_uid_iff (l : List Req) (v : Nat) : l.any (fun x => x.uid = v) = true ↔ 0 < count v (uids l) :=
  ListAux.any_eq_iff_count_pos (fun r : Req => r.uid) l v

theorem count_uids_poolInsert (l : List Req) (t : Req) (u : Nat) (h : t.uid = u → count u (uids l) = 0) :
    count u (uids (poolInsert l t)) = count u (uids l) + if t.uid = u then 1 else 0 := by
  unfold uids
  rw [poolInsert_eq_upsert, ListAux.map_key_upsert]
  split
  · -- the uid is in the pool already, so it is not `u`
    rename_i ha
    have hpos := (any_uid_iff l t.uid).mp ha
    have hne : t.uid ≠ u := fun e => by rw [e, h e] at hpos; exact Nat.lt_irrefl 0 hpos
    rw [if_neg hne]
    rfl
  · rw [count_append, count_singleton]; simp only [beq_iff_eq]

theorem count_uids_filter_ne (l : List Req) (v u : Nat) :
    count u (uids (l.filter (fun r => r.uid ≠ v))) = if v = u then 0 else count u (uids l) := by
  unfold uids
  rw [count_eq_countP, countP_map, countP_filter, count_eq_countP, countP_map]
  by_cases e : v = u
  · rw [if_pos e]
    exact countP_eq_zero.mpr (fun r _ => by simp [e])
  · rw [if_neg e]
    refine countP_congr (fun r _ => ?_)
    simp only [Function.comp, beq_iff_eq, Bool.and_eq_true, decide_eq_true_eq]
    exact and_iff_left_of_imp (fun h => h ▸ Ne.symm e)

theorem count_uids_insert_remove (l : List Req) (t : Req) (u : Nat) (h : t.uid = u → count u (uids l) = 0) :
    count u (uids ((poolInsert l t).filter (fun r => r.uid ≠ t.uid))) = count u (uids l) := by
  rw [count_uids_filter_ne, count_uids_poolInsert l t u h]
  split
  · rename_i e; rw [h e]
  · rfl

/-! ### the placement routine neither writes nor reads the wait pool -/

theorem tryAllocation_wp (c : Cfg) (s : SchedSt) (r : Req) : (tryAllocation c s r).2.waitpool = s.waitpool :=
  (tryAllocation_untouched c s r).waitpool

theorem finishTask_frame (s : SchedSt) (W : List (Int × List Req)) (r : Req) (it : IterSt) :
    finishTask { s with waitpool := W } r it = ((finishTask s r it).1, { (finishTask s r it).2 with waitpool := W }) := by
  unfold finishTask
  by_cases h : it.rem > 0
  · rw [if_pos h, if_pos h]
  · rw [if_neg h, if_neg h]
    cases r.colo <;> rfl

theorem scheduleTask_frame (c : Cfg) (s : SchedSt) (W : List (Int × List Req)) (r : Req) :
    scheduleTask c { s with waitpool := W } r = ((scheduleTask c s r).1, { (scheduleTask c s r).2 with waitpool := W }) := by
  unfold scheduleTask
  by_cases h1 : cpsOf r > c.cpn ∨ r.gpr > c.gpn * 16 ∨ r.lfs > c.lfsPn ∨ r.mem > c.memPn
  · rw [if_pos h1, if_pos h1]
  · rw [if_neg h1, if_neg h1]
    by_cases h2 : ¬ decide (r.ranks > 1) ∧ r.ranks.toNat > slotsPerNode c r (cpsOf r)
    · rw [if_pos h2, if_pos h2]
    · rw [if_neg h2, if_neg h2]
      -- the node loop reads the nodes, the offset and the tag bookkeeping only
      have e1 : coloOf { s with waitpool := W } r = coloOf s r := rfl
      have e2 : skipOf { s with waitpool := W } r = skipOf s r := rfl
      simp only [e1, e2]
      generalize nodeLoop c s.nodes r (cpsOf r) (slotsPerNode c r (cpsOf r)) r.ranks.toNat (decide (r.ranks > 1))
        (coloOf s r) (skipOf s r) s.nodes.length { rem := r.ranks.toNat, offset := s.offset } = nl
      rcases nl with ⟨e, off⟩ | it
      · rfl
      · exact finishTask_frame s W r it

theorem tryAllocation_frame (c : Cfg) (s : SchedSt) (W : List (Int × List Req)) (r : Req) :
    tryAllocation c { s with waitpool := W } r = ((tryAllocation c s r).1, { (tryAllocation c s r).2 with waitpool := W }) := by
  unfold tryAllocation
  rw [scheduleTask_frame]
  rcases scheduleTask c s r with ⟨res, s'⟩
  cases res with
  | error e => rfl
  | ok o =>
    cases o with
    | none => by_cases h : s'.activeCnt = 0 <;> simp only [h, if_true, if_false]
    | some sl =>
      cases sl with
      | nil => by_cases h : s'.activeCnt = 0 <;> simp only [h, if_true, if_false]
      | cons x xs =>
        simp only
        cases changeSlotStates s'.nodes (x :: xs) true <;> rfl

/-! ### placement of incoming tasks (per priority) -/

/-- `e`: events, `w`: tasks that wait, `t`: tasks to come, `d`: the task at hand, reported resp. made to wait -/
theorem add_report (e w t d : Nat) : e + d + w + t = e + w + (t + d) := by
  rw [Nat.add_right_comm e d w, Nat.add_assoc, Nat.add_comm d t]

theorem add_wait (e w t d : Nat) : e + (w + d) + t = e + w + (t + d) := by
  rw [← Nat.add_assoc e w d, Nat.add_assoc (e + w), Nat.add_comm d t]

/-- every task handed in ends up once in the events or once in the list of tasks to park -/
theorem incomingOne_conserve (c : Cfg) (ts : List Req) :
    ∀ (s : SchedSt) (toWait : List Req) (evs : List Ev) (a : Nat),
      count a (evUids (incomingOne c s ts toWait evs).2.2) + count a (uids (incomingOne c s ts toWait evs).2.1)
        = count a (evUids evs) + count a (uids toWait) + count a (uids ts) := by
  intro s toWait evs a
  fun_induction incomingOne c s ts toWait evs
  case case1 => simp
  -- the task is made to wait (its environment is missing, or it cannot be placed yet) ...
  case case2 ih | case5 ih | case8 ih =>
    rw [ih, uids_append, count_append, count_uids_cons _ [], count_uids_cons, uids_nil, count_nil, Nat.zero_add]
    exact add_wait _ _ _ _
  -- ... or it is reported
  all_goals
    rename_i ih
    rw [ih, count_evUids_adv, count_uids_cons]
    exact add_report _ _ _ _

/-! ### the ledger, and the stages that keep it -/

def ledger (u : Nat) (evs : List Ev) (wp : List (Int × List Req)) : Nat := count u (evUids evs) + waiting wp u

/-- a stage starts with the events `evs`, the pool `wp` and `n` occurrences of `u` among the tasks it is handed, and ends
    with `evs'`, `wp'` and `m` occurrences among the tasks it hands on -/
def Keeps (u : Nat) (evs : List Ev) (wp : List (Int × List Req)) (n : Nat)
    (evs' : List Ev) (wp' : List (Int × List Req)) (m : Nat) : Prop :=
  KeysOK wp → ledger u evs wp + n ≤ 1 → KeysOK wp' ∧ ledger u evs' wp' + m = ledger u evs wp + n

theorem Keeps.refl (u : Nat) (evs : List Ev) (wp : List (Int × List Req)) (n : Nat) : Keeps u evs wp n evs wp n :=
  fun hk _ => ⟨hk, rfl⟩

/-- one stage after the other; the second may be handed `x` more -/
theorem Keeps.seq {u : Nat} {e0 e1 e2 : List Ev} {w0 w1 w2 : List (Int × List Req)} {n m k : Nat} (x : Nat)
    (h1 : Keeps u e0 w0 n e1 w1 m) (h2 : Keeps u e1 w1 (x + m) e2 w2 k) : Keeps u e0 w0 (x + n) e2 w2 k := by
  intro hk hle
  -- the first stage is handed `n ≤ x + n`; its equation, with `x` on both sides, gives the bound of the second
  obtain ⟨k1, l1⟩ := h1 hk (Nat.le_trans (Nat.add_le_add_left (Nat.le_add_left n x) _) hle)
  have l1' : ledger u e1 w1 + (x + m) = ledger u e0 w0 + (x + n) := by rw [Nat.add_left_comm, l1, Nat.add_left_comm]
  obtain ⟨k2, l2⟩ := h2 k1 (l1' ▸ hle)
  exact ⟨k2, l2.trans l1'⟩

theorem Keeps.trans {u : Nat} {e0 e1 e2 : List Ev} {w0 w1 w2 : List (Int × List Req)} {n m k : Nat}
    (h1 : Keeps u e0 w0 n e1 w1 m) (h2 : Keeps u e1 w1 m e2 w2 k) : Keeps u e0 w0 n e2 w2 k := by
  have := h1.seq 0 (by rw [Nat.zero_add]; exact h2)
  rwa [Nat.zero_add] at this

theorem ledger_append (u : Nat) (acc evs : List Ev) (wp : List (Int × List Req)) :
    ledger u (acc ++ evs) wp = count u (evUids acc) + ledger u evs wp := by
  unfold ledger
  rw [evUids_append, count_append, Nat.add_assoc]

theorem Keeps.append {u : Nat} {evs' : List Ev} {wp wp' : List (Int × List Req)} {n m : Nat} (acc : List Ev)
    (h : Keeps u [] wp n evs' wp' m) : Keeps u acc wp n (acc ++ evs') wp' m := by
  intro hk hle
  have h0 : ledger u acc wp + n = count u (evUids acc) + (ledger u [] wp + n) := by
    rw [← Nat.add_assoc, ← ledger_append, append_nil]
  obtain ⟨k1, l1⟩ := h hk (Nat.le_trans (Nat.le_add_left _ _) (h0 ▸ hle))
  exact ⟨k1, by rw [ledger_append, Nat.add_assoc, l1, h0]⟩

theorem Keeps.foldl {α β : Type} {u : Nat} (f : β → α → β) (ev : β → List Ev) (pool : β → List (Int × List Req))
    (l : List α) (b : β) (h : ∀ b a, Keeps u (ev b) (pool b) 0 (ev (f b a)) (pool (f b a)) 0) :
    Keeps u (ev b) (pool b) 0 (ev (l.foldl f b)) (pool (l.foldl f b)) 0 :=
  List.foldlRecOn (motive := fun b' => Keeps u (ev b) (pool b) 0 (ev b') (pool b') 0) l f (Keeps.refl u _ _ 0)
    (fun b' hb a _ => hb.trans (h b' a))

/-- it is enough that the count comes out within the one pool that is rewritten -/
theorem Keeps.setPool {u : Nat} {evs evs' : List Ev} {wp : List (Int × List Req)} {p : Int} {l : List Req} {n m : Nat}
    (h : ledger u evs wp + n ≤ 1 →
      count u (evUids evs') + count u (uids l) + m = count u (evUids evs) + count u (uids (poolOf wp p)) + n) :
    Keeps u evs wp n evs' (setPool wp p l) m := by
  intro hk hle
  have hw := waiting_setPool wp p l hk u
  have := h hle
  unfold ledger
  exact ⟨keysOK_setPool wp p l hk, by omega⟩

/-! ### `_schedule_waitpool` -/

theorem lazyBisect_lists (c : Cfg) (data : List Req) (s : SchedSt) (u : Nat) :
    count u (uids (pickIdx data (lazyBisect c data s).1.good)) + count u (uids (pickIdx data (lazyBisect c data s).1.bad))
      + count u (uids (pickIdx data (lazyBisect c data s).1.fail)) = count u (uids data) :=
  pickIdx_partition data _ (lazyBisect_partition c data s) u

theorem envWait_eq (envs : List Nat) (r : Req) : envWait envs r = !envOk envs r := by
  unfold envOk envWait
  cases r.env <;> simp

theorem waitpoolOne_keeps (c : Cfg) (s : SchedSt) (p : Int) (u : Nat) :
    Keeps u [] s.waitpool 0 (waitpoolOne c s p).2.1 (waitpoolOne c s p).1.waitpool 0 := by
  rw [waitpoolOne_eq]
  split
  · exact Keeps.refl u _ _ 0
  · have hl := lazyBisect_lists c (wpData s p) s u
    have hw := (lazyBisect_tried c (wpData s p) s).untouched.waitpool
    simp only [hw]
    refine Keeps.setPool fun _ => ?_
    -- what was in the pool: tried (good, bad or failed) or kept back for its environment
    have hsp := count_filter_split (poolOf s.waitpool p) (envOk s.envs) (envWait s.envs) (envWait_eq s.envs) u
    have hperm : count u (uids (wpData s p)) = count u (uids ((poolOf s.waitpool p).filter (envOk s.envs))) :=
      count_uids_perm (sortDesc_perm _ _) u
    simp only [evUids_append, uids_append, count_append, evUids_map_adv, evUids_nil, count_nil]
    omega

theorem scheduleWaitpool_keeps (c : Cfg) (s : SchedSt) (u : Nat) :
    Keeps u [] s.waitpool 0 (scheduleWaitpool c s).2.1 (scheduleWaitpool c s).1.waitpool 0 := by
  rw [scheduleWaitpool_eq]
  refine Keeps.foldl (wpStep c) (·.2.1) (·.1.waitpool) _ (s, [], true, false) (fun acc p => ?_)
  exact (waitpoolOne_keeps c acc.1 p u).append acc.2.1

/-! ### a pool with one task (what the fairness theorems of C04 are stated for) -/

theorem prios_single (p : Int) (l : List Req) : prios [(p, l)] = [p] := by
  simp [prios]

theorem sortDesc_single (key : Req → Int) (r : Req) : sortDesc key [r] = [r] := by
  simp [sortDesc, insertDesc]

theorem lazyBisect_single (c : Cfg) (r : Req) (s : SchedSt) :
    lazyBisect c [r] s
      = match tryAllocation c s r with
        | (.ok true,  s') => ({ lastGood := some 0, good := [0] }, s')
        | (.ok false, s') => ({ lastBad := some 0, bad := [0] }, s')
        | (.error _,  s') => ({ lastBad := some 0, fail := [0] }, s') := by
  unfold lazyBisect
  simp only [cons_ne_nil, if_false, length_singleton]
  rw [bisLoop]
  simp only [bisCheck, length_singleton, Nat.sub_self, getElem?_cons_zero]
  -- the second pass finds the marker at index 0 and stops
  rcases tryAllocation c s r with ⟨_ | _ | _, s'⟩ <;> rfl

theorem waitpoolOne_single (c : Cfg) (s : SchedSt) (p : Int) (r : Req) (hp : poolOf s.waitpool p = [r]) (henv : envOk s.envs r = true) :
    waitpoolOne c s p
      = match tryAllocation c s r with
        | (.ok true,  s') => ({ s' with waitpool := setPool s'.waitpool p [] }, [Ev.adv r.uid "AGENT_EXECUTING_PENDING"], true, false)
        | (.ok false, s') => ({ s' with waitpool := setPool s'.waitpool p [r] }, [], false, true)
        | (.error _,  s') => ({ s' with waitpool := setPool s'.waitpool p [] }, [Ev.adv r.uid "FAILED"], false, false) := by
  have hd : wpData s p = [r] := by
    unfold wpData; rw [hp, filter_cons, if_pos henv, filter_nil, sortDesc_single]
  have hwait : (poolOf s.waitpool p).filter (envWait s.envs) = [] := by
    rw [hp, filter_cons, envWait_eq, henv]; rfl
  have hok : (poolOf s.waitpool p).filter (envOk s.envs) ≠ [] := by
    rw [hp, filter_cons, if_pos henv]; exact cons_ne_nil _ _
  rw [waitpoolOne_eq, if_neg hok, hd, hwait, lazyBisect_single]
  rcases tryAllocation c s r with ⟨_ | _ | _, s'⟩ <;> rfl

/-! ### cancel messages -/

theorem waiting_removeFromPools (wp wp' : List (Int × List Req)) (uid : Nat) (t : Req) (hk : KeysOK wp)
    (h : removeFromPools wp uid = (wp', some t)) (u : Nat) (hle : waiting wp u ≤ 1) :
    KeysOK wp' ∧ waiting wp' u + (if t.uid = u then 1 else 0) = waiting wp u := by
  have htu : t.uid = uid := removeFromPools_uid wp uid t (by rw [h])
  rcases removeFromPools_cases wp uid with ⟨_, h'⟩ | ⟨e, hf, h'⟩
  · rw [h'] at h; cases h
  · rw [h', Prod.mk.injEq] at h
    have hem : e ∈ wp := mem_of_find?_eq_some hf
    rw [← h.1, htu]
    refine ⟨keysOK_map wp _ (fun x => by split <;> rfl) hk, ?_⟩
    have hupd := waiting_map_key wp e (fun x => (x.1, x.2.filter (fun r => r.uid ≠ uid))) hk hem u
    rw [count_uids_filter_ne] at hupd
    by_cases hu : uid = u
    · -- it held exactly one, as `uid` waits at most once
      have hany := find?_some hf
      have hpos : 0 < count u (uids e.2) := hu ▸ (any_uid_iff e.2 uid).mp hany
      have hle2 : count u (uids e.2) ≤ waiting wp u := by
        rw [← poolOf_mem wp e hk hem]; exact count_poolOf_le_waiting wp e.1 u
      have hone : count u (uids e.2) = 1 := Nat.le_antisymm (Nat.le_trans hle2 hle) hpos
      rw [if_pos hu, hone, Nat.add_zero] at hupd
      rw [if_pos hu]
      exact hupd
    · rw [if_neg hu] at hupd
      rw [if_neg hu, Nat.add_zero]
      exact Nat.add_right_cancel hupd

theorem cancelStep_keeps (u : Nat) (acc : SchedSt × List Ev) (uid : Nat) :
    Keeps u acc.2 acc.1.waitpool 0 (cancelStep acc uid).2 (cancelStep acc uid).1.waitpool 0 := by
  intro hk hle
  unfold cancelStep
  rcases hr : removeFromPools acc.1.waitpool uid with ⟨wp', _ | t⟩
  · exact ⟨hk, rfl⟩
  · unfold ledger at hle ⊢
    obtain ⟨h1, h2⟩ := waiting_removeFromPools _ _ _ _ hk hr u (Nat.le_trans (Nat.le_add_left _ _) hle)
    refine ⟨h1, ?_⟩
    simp only [count_evUids_adv]
    rw [Nat.add_assoc (count u (evUids acc.2)), Nat.add_comm _ (waiting wp' u), h2]

/-! ### draining the incoming queue -/

def handedM (msgs : List Msg) (u : Nat) : Nat :=
  count u (uids (msgs.flatMap (fun m => match m with | .sched ts => ts | .cancel _ => [])))

theorem handedM_cons_sched (ts : List Req) (ms : List Msg) (u : Nat) :
    handedM (.sched ts :: ms) u = handedM ms u + count u (uids ts) := by
  simp [handedM, count_append, Nat.add_comm]

theorem handedM_cons_cancel (us : List Nat) (ms : List Msg) (u : Nat) :
    handedM (.cancel us :: ms) u = handedM ms u := by
  simp [handedM]

theorem drainIncoming_keeps (msgs : List Msg) (u : Nat) :
    ∀ (s : SchedSt) (toSched : List Req) (evs : List Ev),
      Keeps u evs s.waitpool (handedM msgs u + count u (uids toSched))
        (drainIncoming s msgs toSched evs).2.2 (drainIncoming s msgs toSched evs).1.waitpool
        (count u (uids (drainIncoming s msgs toSched evs).2.1)) := by
  induction msgs with
  | nil =>
    intro s toSched evs
    rw [show handedM [] u = 0 from rfl, Nat.zero_add]
    exact Keeps.refl u _ _ _
  | cons m ms ih =>
    intro s toSched evs
    cases m with
    | sched ts =>
      rw [drainIncoming_sched, handedM_cons_sched, Nat.add_assoc]
      -- the tasks are failed (no ranks) or go on the list of those to schedule
      refine Keeps.seq (handedM ms u) (fun hk _ => ⟨hk, ?_⟩) (ih s _ _)
      have := count_ranks_split ts u
      simp only [ledger, evUids_append, uids_append, count_append, evUids_map_adv]
      omega
    | cancel us =>
      rw [drainIncoming_cancel, handedM_cons_cancel]
      have hcancel : Keeps u evs s.waitpool 0
          (evs ++ (us.foldl cancelStep (s, [])).2) (us.foldl cancelStep (s, [])).1.waitpool 0 :=
        (Keeps.foldl cancelStep (·.2) (·.1.waitpool) us (s, []) (cancelStep_keeps u)).append evs
      exact hcancel.seq _ (ih _ _ _)

/-! ### parking what must wait -/

theorem count_poolOf_eq_zero {u n : Nat} {evs : List Ev} {wp : List (Int × List Req)}
    (hle : ledger u evs wp + n ≤ 1) (hn : 0 < n) (p : Int) : count u (uids (poolOf wp p)) = 0 := by
  -- what waits in one pool ≤ what waits ≤ the ledger ≤ 1 - n ≤ 0
  have hl : ledger u evs wp ≤ 0 := Nat.le_of_add_le_add_right (Nat.le_trans hle ((Nat.zero_add n).symm ▸ hn))
  exact Nat.eq_zero_of_le_zero (Nat.le_trans (count_poolOf_le_waiting wp p u) (Nat.le_trans (Nat.le_add_left _ _) hl))

theorem parkTasks_keeps (p : Int) (u : Nat) (ts : List Req) (s : SchedSt) (evs : List Ev) :
    Keeps u evs s.waitpool (count u (uids ts)) (parkTasks p s ts evs).2 (parkTasks p s ts evs).1.waitpool 0 := by
  fun_induction parkTasks p s ts evs
  case case1 => exact Keeps.refl u _ _ _
  case case2 s t ts evs _ ih =>
    -- marked for cancellation: put into its pool, taken out again and reported
    rw [count_uids_cons]
    refine Keeps.seq (m := 0) (count u (uids ts)) (Keeps.setPool fun hle => ?_) ih
    have hnew : t.uid = u → count u (uids (poolOf s.waitpool p)) = 0 :=
      fun e => count_poolOf_eq_zero hle (by rw [if_pos e]; exact Nat.one_pos) p
    rw [count_evUids_adv, count_uids_insert_remove _ t u hnew, Nat.add_zero]
    exact Nat.add_right_comm _ _ _
  case case3 s t ts evs _ ih =>
    rw [count_uids_cons]
    refine Keeps.seq (m := 0) (count u (uids ts)) (Keeps.setPool fun hle => ?_) ih
    have hnew : t.uid = u → count u (uids (poolOf s.waitpool p)) = 0 :=
      fun e => count_poolOf_eq_zero hle (by rw [if_pos e]; exact Nat.one_pos) p
    rw [count_uids_poolInsert _ t u hnew, Nat.add_zero, Nat.add_assoc]

/-! ### `_schedule_incoming` -/

theorem filter_or_split (l : List Req) (P Q : Req → Bool) (hd : ∀ r, ¬ (P r = true ∧ Q r = true)) (u : Nat) :
    count u (uids (l.filter (fun r => P r || Q r))) = count u (uids (l.filter P)) + count u (uids (l.filter Q)) := by
  induction l with
  | nil => rfl
  | cons x xs ih =>
    rw [filter_cons, filter_cons, filter_cons]
    cases hp : P x
    · cases hq : Q x
      · exact ih
      · simp only [Bool.or_true, if_true, Bool.false_eq_true, if_false, count_uids_cons, ih]
        exact Nat.add_assoc _ _ _
    · have hq : Q x = false := by
        cases h : Q x
        · rfl
        · exact absurd ⟨hp, h⟩ (hd x)
      simp only [hq, Bool.or_false, if_true, Bool.false_eq_true, if_false, count_uids_cons, ih]
      exact Nat.add_right_comm _ _ _

def insPrio (acc : List Int) (p : Int) : List Int :=
  if acc.any (· = p) then acc else (acc.filter (· > p)) ++ [p] ++ (acc.filter (· < p))

theorem distinctPriosDesc_eq (ts : List Req) : distinctPriosDesc ts = (ts.map (·.prio)).foldl insPrio [] := rfl

theorem insPrio_perm (acc : List Int) (p : Int) (h : p ∉ acc) : (insPrio acc p).Perm (p :: acc) := by
  unfold insPrio
  rw [if_neg (by simpa using h)]
  have hlt : acc.filter (· < p) = acc.filter (fun x => !decide (x > p)) := by
    apply filter_congr
    intro x hx
    have : x ≠ p := fun e => h (e ▸ hx)
    rw [← decide_not, decide_eq_decide]
    exact ⟨fun hx => Int.lt_asymm hx, fun hx => Int.lt_iff_le_and_ne.mpr ⟨Int.not_lt.mp hx, this⟩⟩
  rw [hlt, append_assoc, singleton_append]
  exact perm_middle.trans ((filter_append_perm _ acc).cons p)

theorem insPrio_spec (acc : List Int) (p : Int) (hn : acc.Nodup) :
    (insPrio acc p).Nodup ∧ ∀ x, x ∈ insPrio acc p ↔ x ∈ acc ∨ x = p := by
  by_cases h : p ∈ acc
  · have : insPrio acc p = acc := by unfold insPrio; rw [if_pos (by simpa using h)]
    rw [this]
    exact ⟨hn, fun x => ⟨Or.inl, fun hx => hx.elim id (fun e => e ▸ h)⟩⟩
  · have hp := insPrio_perm acc p h
    refine ⟨hp.nodup_iff.mpr (nodup_cons.mpr ⟨h, hn⟩), fun x => ?_⟩
    rw [hp.mem_iff, mem_cons, or_comm]

theorem insPrio_fold (l : List Int) : ∀ (acc : List Int), acc.Nodup →
    (l.foldl insPrio acc).Nodup ∧ ∀ x, x ∈ l.foldl insPrio acc ↔ x ∈ acc ∨ x ∈ l := by
  induction l with
  | nil => intro acc hn; exact ⟨hn, fun x => by simp⟩
  | cons p ps ih =>
    intro acc hn
    rw [foldl_cons]
    obtain ⟨h1, h2⟩ := insPrio_spec acc p hn
    obtain ⟨i1, i2⟩ := ih (insPrio acc p) h1
    refine ⟨i1, fun x => ?_⟩
    rw [i2 x, h2 x, mem_cons, or_assoc]

theorem distinctPriosDesc_spec (ts : List Req) :
    (distinctPriosDesc ts).Nodup ∧ ∀ t ∈ ts, t.prio ∈ distinctPriosDesc ts := by
  rw [distinctPriosDesc_eq]
  obtain ⟨h1, h2⟩ := insPrio_fold (ts.map (·.prio)) [] nodup_nil
  exact ⟨h1, fun t ht => (h2 _).mpr (Or.inr (mem_map.mpr ⟨t, ht, rfl⟩))⟩

theorem incomingOne_keeps (c : Cfg) (ts : List Req) (s : SchedSt) (u : Nat) :
    Keeps u [] s.waitpool (count u (uids ts)) (incomingOne c s ts [] []).2.2 (incomingOne c s ts [] []).1.waitpool
      (count u (uids (incomingOne c s ts [] []).2.1)) := by
  intro hk _
  have hone := incomingOne_conserve c ts s [] [] u
  rw [(incomingOne_tried c ts s [] []).untouched.waitpool]
  refine ⟨hk, ?_⟩
  simp only [ledger, evUids_nil, uids_nil, count_nil, Nat.zero_add] at hone ⊢
  rw [← hone, Nat.add_right_comm, Nat.add_comm]

theorem incStep_keeps (c : Cfg) (toSched : List Req) (u : Nat) (acc : SchedSt × List Ev × Bool) (p : Int) :
    Keeps u acc.2.1 acc.1.waitpool (count u (uids (toSched.filter (fun t => decide (t.prio = p)))))
      (incStep c toSched acc p).2.1 (incStep c toSched acc p).1.waitpool 0 := by
  rw [← count_uids_perm (sortDesc_perm (fun r => r.ranks) _) u]
  exact ((incomingOne_keeps c (incData toSched p) acc.1 u).append acc.2.1).trans ((parkTasks_keeps p u _ _ []).append _)

theorem incomingFold_keeps (c : Cfg) (toSched : List Req) (u : Nat) (ps : List Int) (hn : ps.Nodup) :
    ∀ (acc : SchedSt × List Ev × Bool),
      Keeps u acc.2.1 acc.1.waitpool (count u (uids (toSched.filter (fun t => ps.any (fun p => decide (t.prio = p))))))
        (ps.foldl (incStep c toSched) acc).2.1 (ps.foldl (incStep c toSched) acc).1.waitpool 0 := by
  induction ps with
  | nil =>
    intro acc
    have hnone : toSched.filter (fun t => ([] : List Int).any (fun p => decide (t.prio = p))) = [] :=
      filter_eq_nil_iff.mpr (fun _ _ h => Bool.noConfusion h)
    rw [hnone]
    exact Keeps.refl u _ _ 0
  | cons p ps ih =>
    intro acc
    obtain ⟨hp, hps⟩ := nodup_cons.mp hn
    have hdisj : ∀ r : Req, ¬ (decide (r.prio = p) = true ∧ ps.any (fun q => decide (r.prio = q)) = true) := by
      rintro r ⟨h1, h2⟩
      obtain ⟨q, hq, e⟩ := any_eq_true.mp h2
      exact hp ((of_decide_eq_true h1).symm.trans (of_decide_eq_true e) ▸ hq)
    have hsplit := filter_or_split toSched (fun t => decide (t.prio = p)) (fun t => ps.any (fun q => decide (t.prio = q)))
      hdisj u
    simp only [any_cons]
    rw [foldl_cons, hsplit, Nat.add_comm]
    exact (incStep_keeps c toSched u acc p).seq _ (ih hps _)

theorem scheduleIncoming_keeps (c : Cfg) (s : SchedSt) (msgs : List Msg) (u : Nat) :
    Keeps u [] s.waitpool (handedM msgs u) (scheduleIncoming c s msgs).2.1 (scheduleIncoming c s msgs).1.waitpool 0 := by
  rw [(scheduleIncoming_fold c s msgs).1, (scheduleIncoming_fold c s msgs).2]
  have hd := drainIncoming_keeps msgs u s [] []
  rw [show count u (uids ([] : List Req)) = 0 from rfl, Nat.add_zero] at hd
  unfold incFold
  generalize drainIncoming s msgs [] [] = d at hd ⊢
  -- every priority that occurs among the tasks drained is passed over, once
  obtain ⟨n1, n2⟩ := distinctPriosDesc_spec d.2.1
  have hall : d.2.1.filter (fun t => (distinctPriosDesc d.2.1).any (fun p => decide (t.prio = p))) = d.2.1 :=
    filter_eq_self.mpr (fun t ht => any_eq_true.mpr ⟨t.prio, n2 t ht, decide_eq_true rfl⟩)
  have hf := incomingFold_keeps c d.2.1 u (distinctPriosDesc d.2.1) n1 (d.1, d.2.2, true)
  rw [hall] at hf
  exact hd.trans hf

/-! ### the iteration and the loop -/

theorem loopIterA_keeps (c : Cfg) (s : SchedSt) (res : Bool) (it : Iter) (u : Nat) :
    Keeps u [] s.waitpool (handedM it.incoming u) (loopIterA c s res it).2.2 (loopIterA c s res it).1.waitpool 0 := by
  rw [loopIterA_fst, loopIterA_evs]
  have hw : Keeps u [] s.waitpool 0 (wpPass c (arrive s it) res).2.1 (wpPass c (arrive s it) res).1.waitpool 0 := by
    unfold wpPass
    split
    · exact scheduleWaitpool_keeps c (arrive s it) u
    · exact Keeps.refl u _ _ 0
  exact hw.seq (handedM it.incoming u) ((scheduleIncoming_keeps c _ it.incoming u).append _)

theorem loopIter_keeps (c : Cfg) (s : SchedSt) (res : Bool) (it : Iter) (u : Nat) :
    Keeps u [] s.waitpool (handedM it.incoming u) (loopIter c s res it).2.2 (loopIter c s res it).1.waitpool 0 := by
  obtain ⟨ns, a, q, h, e⟩ := unscheduleCompleted_writes (loopIterA c s res it).1 it.unsched
  rw [loopIter_fst, loopIter_evs, e]
  exact loopIterA_keeps c s res it u

/-- how often `u` is handed to the scheduler in a whole history -/
def handed : List Iter → Nat → Nat
  | [],        _ => 0
  | it :: its, u => handedM it.incoming u + handed its u

theorem runLoop_keeps (c : Cfg) (u : Nat) (its : List Iter) :
    ∀ (s : SchedSt) (res : Bool) (acc : List (List Ev)),
      Keeps u acc.flatten s.waitpool (handed its u) (runLoop c s res its acc).2.2.flatten (runLoop c s res its acc).1.waitpool 0 := by
  induction its with
  | nil => intro s res acc; exact Keeps.refl u _ _ 0
  | cons it its ih =>
    intro s res acc
    have hrest := ih (loopIter c s res it).1 (loopIter c s res it).2.1 (acc ++ [(loopIter c s res it).2.2])
    rw [flatten_append, flatten_singleton] at hrest
    rw [runLoop_cons, handed, Nat.add_comm]
    exact ((loopIter_keeps c s res it u).append acc.flatten).seq _ hrest

/-- `runLoop_keeps` with `Keeps` written out -/
theorem runLoop_conserve (c : Cfg) (u : Nat) (its : List Iter) :
    ∀ (s : SchedSt) (res : Bool) (acc : List (List Ev)), KeysOK s.waitpool →
      count u (evUids acc.flatten) + waiting s.waitpool u + handed its u ≤ 1 →
      KeysOK (runLoop c s res its acc).1.waitpool
      ∧ count u (evUids (runLoop c s res its acc).2.2.flatten) + waiting (runLoop c s res its acc).1.waitpool u
        = count u (evUids acc.flatten) + waiting s.waitpool u + handed its u :=
  runLoop_keeps c u its

/-- from an empty wait pool: a uid handed in at most once is reported or waits as often as it was handed in -/
theorem runLoop_ledger (c : Cfg) (s0 : SchedSt) (h0 : s0.waitpool = []) (res : Bool) (its : List Iter) (u : Nat)
    (hu : handed its u ≤ 1) :
    count u (evUids (runLoop c s0 res its []).2.2.flatten) + waiting (runLoop c s0 res its []).1.waitpool u
      = handed its u := by
  have hk : KeysOK s0.waitpool := by rw [h0]; exact nodup_nil
  have := (runLoop_conserve c u its s0 res [] hk (by rw [h0]; simpa using hu)).2
  rw [h0] at this
  simpa using this

/-- handed in once: reported once or waiting once, never both, never neither -/
theorem runLoop_one_place (c : Cfg) (s0 : SchedSt) (h0 : s0.waitpool = []) (res : Bool) (its : List Iter) (u : Nat)
    (hu : handed its u = 1) :
    (count u (evUids (runLoop c s0 res its []).2.2.flatten) = 1 ∧ waiting (runLoop c s0 res its []).1.waitpool u = 0)
    ∨ (count u (evUids (runLoop c s0 res its []).2.2.flatten) = 0 ∧ waiting (runLoop c s0 res its []).1.waitpool u = 1) := by
  have := runLoop_ledger c s0 h0 res its u (Nat.le_of_eq hu)
  rw [hu] at this
  exact (Nat.add_eq_one_iff.mp this).symm

end RPVerif.Sched
