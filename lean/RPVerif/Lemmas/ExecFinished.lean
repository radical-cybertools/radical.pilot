import RPVerif.Lemmas.Exec

/-! Until the first cancel request or timeout the executor is `Quiet`; a quiet state whose process has exited is `Finished`,
    which every step keeps: each `cancel_task` invocation returns at its "already done?" test. -/
namespace RPVerif.Exec

/-- not past the "already done?" test of `cancel_task` (the poll at `c1`), or returned -/
def earlyPc : CPc → Bool
  | .c0 => true | .c1 => true | .cDone => true | _ => false

structure Finished (s : ES) : Prop where
  exited  : s.proc.isExited = true
  spawned : s.intake ≠ .i0 ∧ s.intake ≠ .i1
  early   : ∀ c ∈ s.cancels, earlyPc c = true
  inl     : ∀ c, s.intake = .iCancel c → earlyPc c = true
  notC    : s.outcome ≠ some .canceled

theorem cancelPc_early (s : ES) (c : CPc) (he : s.proc.isExited = true) (h : earlyPc c = true) :
    earlyPc (cancelPc s c) = true := by
  cases c with
  | c0 =>
    unfold cancelPc
    cases s.procKey <;> rfl
  | c1 =>
    unfold cancelPc
    rw [he]
    rfl
  | cDone => rfl
  | _ => cases h

theorem cancelSt_early (s : ES) : (c : CPc) → earlyPc c = true → cancelSt s c = s
  | .c0, _ | .c1, _ | .cDone, _ => rfl

theorem collected_ne_canceled (c : Nat) : some (if c = 0 then Outcome.done else .failedExit) ≠ some .canceled := by
  by_cases h : c = 0
  · rw [if_pos h]
    exact fun e => Outcome.noConfusion (Option.some.inj e)
  · rw [if_neg h]
    exact fun e => Outcome.noConfusion (Option.some.inj e)

theorem finished_step (s : ES) (ch : Choice) (h : Finished s) : Finished (step s ch) := by
  apply step_cases s ch
  case i0 => exact fun hi => absurd hi h.spawned.1
  case i1 | raises => exact fun hi => absurd hi h.spawned.2
  case exit => exact fun _ hp => by have := h.exited; rw [hp] at this; cases this
  case i2 | i3 | iFault =>
    intros
    exact { h with spawned := ⟨IPc.noConfusion, IPc.noConfusion⟩, inl := fun _ => IPc.noConfusion }
  case i3m =>
    intros
    exact { h with spawned := ⟨IPc.noConfusion, IPc.noConfusion⟩, inl := fun _ e => IPc.iCancel.inj e ▸ rfl }
  case inline =>
    intro c hi
    rw [cancelSt_early s c (h.inl c hi)]
    refine { h with spawned := ne_of_spawnedPc (inlineNext_spec (cancelPc s c)).1, inl := fun c' e => ?_ }
    rw [eq_of_inlineNext e]
    exact cancelPc_early s c h.exited (h.inl c hi)
  case cancel =>
    intro i c hc
    have he := h.early c (List.mem_of_getElem? hc)
    rw [cancelSt_early s c he]
    refine { h with early := fun c' hc' => ?_ }
    rcases List.mem_or_eq_of_mem_set hc' with hc' | rfl
    · exact h.early c' hc'
    · exact cancelPc_early s c h.exited he
  case req | timeout =>
    intros
    exact { h with early := fun c hc => (List.mem_append.mp hc).elim (h.early c) fun e => List.mem_singleton.mp e ▸ rfl }
  case w3 => exact fun c _ _ => { h with notC := collected_ne_canceled c }
  all_goals
    intros
    exact { h with }

theorem finished_run (s : ES) (cs : List Choice) (h : Finished s) : Finished (run s cs) :=
  run_induction cs h fun s hs c _ => finished_step s c hs

def isReq : Choice → Bool
  | .cancelReq => true | .timeout => true | _ => false

structure Quiet (s : ES) : Prop where
  noCancels : s.cancels = []
  noMark    : s.mark = false
  noInline  : ∀ c, s.intake ≠ .iCancel c
  notC      : s.outcome ≠ some .canceled
  spawned   : s.proc = .none ∨ (s.intake ≠ .i0 ∧ s.intake ≠ .i1)

theorem quiet_init : Quiet ({} : ES) :=
  { noCancels := rfl, noMark := rfl, noInline := fun _ => IPc.noConfusion, notC := nofun, spawned := .inl rfl }

theorem quiet_step (s : ES) (ch : Choice) (hq : isReq ch = false) (h : Quiet s) : Quiet (step s ch) := by
  apply step_cases s ch
  case req | reqMark | timeout => exact fun e => by rw [e] at hq; cases hq
  case i3m => exact fun _ hm => by rw [h.noMark] at hm; cases hm
  case inline => exact fun c hi => absurd hi (h.noInline c)
  case cancel => exact fun i c hc => by rw [h.noCancels] at hc; cases hc
  case i0 => exact fun hi => { h with noInline := fun _ => IPc.noConfusion, spawned := h.spawned.imp_right fun h => absurd hi h.1 }
  case raises => exact fun hi => { h with noInline := fun _ => IPc.noConfusion, spawned := h.spawned.imp_right fun h => absurd hi h.2 }
  case i1 | i2 | i3 | iFault =>
    intros
    exact { h with noInline := fun _ => IPc.noConfusion, spawned := .inr ⟨IPc.noConfusion, IPc.noConfusion⟩ }
  case exit => exact fun _ hp => { h with spawned := h.spawned.imp_left fun h => by rw [hp] at h; cases h }
  case w3 => exact fun c _ _ => { h with notC := collected_ne_canceled c }
  all_goals
    intros
    exact { h with }

theorem quiet_run (s : ES) (cs : List Choice) (hq : ∀ c ∈ cs, isReq c = false) (h : Quiet s) : Quiet (run s cs) :=
  run_induction cs h fun s hs c hc => quiet_step s c (hq c hc) hs

theorem finished_of_quiet (s : ES) (h : Quiet s) (he : s.proc.isExited = true) : Finished s :=
  { exited  := he
    spawned := h.spawned.resolve_left fun hp => by rw [hp] at he; cases he
    early   := fun c hc => by rw [h.noCancels] at hc; cases hc
    inl     := fun c hc => absurd hc (h.noInline c)
    notC    := h.notC }

/-- `advance(CANCELED)` by `is_canceled` needs the mark of a cancel request -/
theorem step_canceledPub (s : ES) (ch : Choice) (hm : s.mark = false) : (step s ch).canceledPub = s.canceledPub := by
  apply step_cases (motive := fun t => t.canceledPub = s.canceledPub) s ch
  case i3m => exact fun _ hm' => by rw [hm] at hm'; cases hm'
  case inline => exact fun c _ => cancelSt_canceledPub s c
  case cancel => exact fun _ c _ => cancelSt_canceledPub s c
  all_goals
    intros
    rfl

end RPVerif.Exec
