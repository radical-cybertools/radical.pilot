import RPVerif.Model.Descr
/-! `TaskDescription._verify` (C19): the alias pass under a well-formed alias table, the `use_mpi` step, the driver's tabulation. -/
namespace RPVerif.Descr

theorem set_same (d : Dict) (k : String) (v : V) : (d.set k v) k = v := by simp [Dict.set]
theorem set_other {d : Dict} {k k' : String} {v : V} (h : k' ≠ k) : (d.set k v) k' = d k' := by
  simp [Dict.set, h]

theorem set_congr {d d' : Dict} {k' : String} (h : d k' = d' k') (k : String) (v : V) : (d.set k v) k' = (d'.set k v) k' := by
  unfold Dict.set
  rw [h]

theorem set_set (d : Dict) (k : String) (v : V) : (d.set k v).set k v = d.set k v := by
  funext k'
  unfold Dict.set
  split <;> rfl

theorem applyAlias_other (d : Dict) (a : Alias) (hr : a.resetAttr = a.old) (k : String) (hold : k ≠ a.old) (hnew : k ≠ a.new) :
    applyAlias d a k = d k := by
  unfold applyAlias
  split
  · rw [hr, set_other hold, set_other hnew]
  · rfl

theorem applyAlias_of_falsy (d : Dict) (a : Alias) (h : (d a.old).truthy = false) : applyAlias d a = d := by
  unfold applyAlias
  rw [h]
  rfl

theorem applyAlias_pair (d : Dict) (a : Alias) (hr : a.resetAttr = a.old) (hon : a.old ≠ a.new) :
    applyAlias d a a.new = (if (d a.old).truthy then conv a (d a.old) else d a.new)
    ∧ applyAlias d a a.old = (if (d a.old).truthy then a.resetVal else d a.old) := by
  unfold applyAlias
  split
  · rw [hr, set_other hon.symm, set_same, set_same]
    exact ⟨rfl, rfl⟩
  · exact ⟨rfl, rfl⟩

theorem foldl_applyAlias_of_falsy (as : List Alias) (d : Dict) (h : ∀ a ∈ as, (d a.old).truthy = false) :
    as.foldl applyAlias d = d :=
  List.foldlRecOn (motive := (· = d)) as applyAlias rfl fun d' hd a ha => by
    rw [hd]
    exact applyAlias_of_falsy d a (h a ha)

/-- decidable; checked on the generated table -/
def AliasesWF (as : List Alias) : Prop :=
  (∀ a ∈ as, a.resetAttr = a.old)
  ∧ (∀ a ∈ as, a.resetVal.truthy = false)
  ∧ (as.map (·.old)).Nodup
  ∧ (as.map (·.new)).Nodup
  ∧ (∀ a ∈ as, ∀ b ∈ as, a.old ≠ b.new)

instance (as : List Alias) : Decidable (AliasesWF as) := by
  unfold AliasesWF; infer_instance

namespace AliasesWF
variable {as : List Alias} {x : Alias} {xs : List Alias}

theorem reset_old (hw : AliasesWF as) : ∀ a ∈ as, a.resetAttr = a.old := hw.1
theorem reset_falsy (hw : AliasesWF as) : ∀ a ∈ as, a.resetVal.truthy = false := hw.2.1
theorem nodup_old (hw : AliasesWF as) : (as.map (·.old)).Nodup := hw.2.2.1
theorem nodup_new (hw : AliasesWF as) : (as.map (·.new)).Nodup := hw.2.2.2.1
theorem old_ne_new (hw : AliasesWF as) : ∀ a ∈ as, ∀ b ∈ as, a.old ≠ b.new := hw.2.2.2.2

theorem tail (hw : AliasesWF (x :: xs)) : AliasesWF xs :=
  have tl : ∀ {a}, a ∈ xs → a ∈ x :: xs := List.mem_cons_of_mem _
  ⟨fun a ha => hw.reset_old a (tl ha), fun a ha => hw.reset_falsy a (tl ha), (List.nodup_cons.mp hw.nodup_old).2,
    (List.nodup_cons.mp hw.nodup_new).2, fun a ha b hb => hw.old_ne_new a (tl ha) b (tl hb)⟩

theorem head_ne (hw : AliasesWF (x :: xs)) {b : Alias} (hb : b ∈ xs) : b.old ≠ x.old ∧ b.new ≠ x.new := by
  constructor
  · intro e
    exact (List.nodup_cons.mp hw.nodup_old).1 (List.mem_map.mpr ⟨b, hb, e⟩)
  · intro e
    exact (List.nodup_cons.mp hw.nodup_new).1 (List.mem_map.mpr ⟨b, hb, e⟩)

end AliasesWF

theorem foldl_applyAlias_other (as : List Alias) (hw : AliasesWF as) (d : Dict) (k : String)
    (h : ∀ a ∈ as, k ≠ a.old ∧ k ≠ a.new) : (as.foldl applyAlias d) k = d k :=
  List.foldlRecOn (motive := fun d' => d' k = d k) as applyAlias rfl fun d' hd a ha =>
    (applyAlias_other d' a (hw.reset_old a ha) k (h a ha).1 (h a ha).2).trans hd

theorem foldl_applyAlias_pair (as : List Alias) (hw : AliasesWF as) (d : Dict) :
    ∀ a ∈ as,
      (as.foldl applyAlias d) a.new = (if (d a.old).truthy then conv a (d a.old) else d a.new)
      ∧ (as.foldl applyAlias d) a.old = (if (d a.old).truthy then a.resetVal else d a.old) := by
  induction as generalizing d with
  | nil => intro a ha; cases ha
  | cons x xs ih =>
    have hx : x ∈ x :: xs := List.mem_cons_self
    have tl : ∀ {b}, b ∈ xs → b ∈ x :: xs := List.mem_cons_of_mem _
    intro a ha
    rw [List.foldl_cons]
    rcases List.mem_cons.mp ha with rfl | hin
    · -- the head block: the later blocks write neither of its attributes
      have hnew : ∀ b ∈ xs, a.new ≠ b.old ∧ a.new ≠ b.new :=
        fun b hb => ⟨(hw.old_ne_new b (tl hb) a hx).symm, (hw.head_ne hb).2.symm⟩
      have hold : ∀ b ∈ xs, a.old ≠ b.old ∧ a.old ≠ b.new :=
        fun b hb => ⟨(hw.head_ne hb).1.symm, hw.old_ne_new a hx b (tl hb)⟩
      rw [foldl_applyAlias_other xs hw.tail _ a.new hnew, foldl_applyAlias_other xs hw.tail _ a.old hold]
      exact applyAlias_pair d a (hw.reset_old a hx) (hw.old_ne_new a hx a hx)
    · -- a block of the tail: the head block writes neither of its attributes, so it starts from `d`
      have hxo : x.resetAttr = x.old := hw.reset_old x hx
      have hold : applyAlias d x a.old = d a.old :=
        applyAlias_other d x hxo a.old (hw.head_ne hin).1 (hw.old_ne_new a (tl hin) x hx)
      have hnew : applyAlias d x a.new = d a.new :=
        applyAlias_other d x hxo a.new (hw.old_ne_new x hx a (tl hin)).symm (hw.head_ne hin).2
      have := ih hw.tail (applyAlias d x) a hin
      rwa [hold, hnew] at this

theorem foldl_applyAlias_old_falsy (as : List Alias) (hw : AliasesWF as) (d : Dict) (a : Alias) (ha : a ∈ as) :
    ((as.foldl applyAlias d) a.old).truthy = false := by
  rw [(foldl_applyAlias_pair as hw d a ha).2]
  split
  · exact hw.reset_falsy a ha
  · next hf => exact (Bool.not_eq_true _).mp hf

theorem all_congr_mem {α : Type} (l : List α) (f g : α → Bool) (h : ∀ k ∈ l, f k = g k) :
    l.all f = l.all g := by
  rw [Bool.eq_iff_iff, List.all_eq_true, List.all_eq_true]
  exact forall₂_congr fun k hk => by rw [h k hk]

theorem modeOk_congr (cs : List ModeCheck) (d d' : Dict) (hm : d "mode" = d' "mode")
    (hk : ∀ c ∈ cs, ∀ k ∈ c.required ++ c.banned, d k = d' k) : modeOk d cs = modeOk d' cs := by
  induction cs with
  | nil => rfl
  | cons c cs ih =>
    have hc := hk c List.mem_cons_self
    rw [modeOk, modeOk, hm, ih fun c' hc' => hk c' (List.mem_cons_of_mem _ hc'),
      all_congr_mem c.required _ _ fun k hk' => congrArg V.truthy (hc k (List.mem_append_left _ hk')),
      all_congr_mem c.banned _ _ fun k hk' => congrArg (fun v => !v.truthy) (hc k (List.mem_append_right _ hk'))]

/-- the last step of `verify` (written there as a lambda): `if self.use_mpi is None: self.use_mpi = bool(self.ranks - 1)` -/
def mpiStep (d : Dict) : Dict :=
  if d "use_mpi" = .none then d.set "use_mpi" (ranksMinusOne (d "ranks")) else d

theorem mpiStep_other (d : Dict) (k : String) (h : k ≠ "use_mpi") : mpiStep d k = d k := by
  unfold mpiStep
  split
  · exact set_other h
  · rfl

theorem mpiStep_congr (d d' : Dict) (k : String) (hu : d "use_mpi" = d' "use_mpi") (hr : d "ranks" = d' "ranks")
    (hk : d k = d' k) : mpiStep d k = mpiStep d' k := by
  unfold mpiStep
  rw [hu, hr]
  split
  · exact set_congr hk _ _
  · exact hk

theorem mpiStep_idem (d : Dict) : mpiStep (mpiStep d) = mpiStep d := by
  by_cases hd : d "use_mpi" = .none
  · have e : mpiStep d = d.set "use_mpi" (ranksMinusOne (d "ranks")) := if_pos hd
    rw [e, mpiStep]
    split
    · rw [set_other (k' := "ranks") (by simp), set_set]
    · rfl
  · have e : mpiStep d = d := if_neg hd
    rw [e, e]

theorem ofList_tabulate (ks : List String) (d : Dict) (k : String) (hk : k ∈ ks) :
    ofList (tabulate ks d) k = d k := by
  unfold ofList tabulate
  induction ks with
  | nil => cases hk
  | cons x xs ih =>
    rw [List.map_cons, List.find?_cons]
    by_cases hx : x = k
    · rw [hx, decide_eq_true rfl]
    · rw [decide_eq_false hx]
      exact ih ((List.mem_cons.mp hk).resolve_left (Ne.symm hx))

theorem applyAlias_congr (d d' : Dict) (a : Alias) (k : String)
    (ho : d a.old = d' a.old) (hk : d k = d' k) : applyAlias d a k = applyAlias d' a k := by
  unfold applyAlias
  rw [ho]
  split
  · exact set_congr (set_congr hk _ _) _ _
  · exact hk

theorem foldl_tabulate_agrees (ks : List String) (as : List Alias) (hold : ∀ a ∈ as, a.old ∈ ks)
    (l : List (String × V)) (d : Dict) (h : ∀ k ∈ ks, ofList l k = d k) :
    ∀ k ∈ ks, ofList (as.foldl (fun l a => tabulate ks (applyAlias (ofList l) a)) l) k
              = (as.foldl applyAlias d) k := by
  refine List.foldl_rel (r := fun l (d : Dict) => ∀ k ∈ ks, ofList l k = d k) h fun a ha l d hr k hk => ?_
  rw [ofList_tabulate ks _ k hk]
  exact applyAlias_congr _ _ a k (hr a.old (hold a ha)) (hr k hk)

theorem verifyFast_agrees (cs : List ModeCheck) (as : List Alias) (dm : String) (ks : List String)
    (d : Dict) (hold : ∀ a ∈ as, a.old ∈ ks) (hu : "use_mpi" ∈ ks) (hr : "ranks" ∈ ks) :
    (verifyFast cs as dm ks d).isSome = (verify cs as dm d).isSome
    ∧ ∀ l d', verifyFast cs as dm ks d = some l → verify cs as dm d = some d' →
        ∀ k ∈ ks, ofList l k = d' k := by
  unfold verifyFast verify
  generalize (if (d "mode").truthy then d else d.set "mode" (.str dm)) = d1
  by_cases hm : modeOk d1 cs = true
  · rw [if_pos hm, if_pos hm]
    refine ⟨rfl, ?_⟩
    intro l d' h1 h2 k hk
    cases h1
    cases h2
    have key := foldl_tabulate_agrees ks as hold (tabulate ks d1) d1 (ofList_tabulate ks d1)
    rw [ofList_tabulate ks _ k hk]
    exact mpiStep_congr _ _ k (key _ hu) (key _ hr) (key k hk)
  · rw [if_neg hm, if_neg hm]
    exact ⟨rfl, fun l d' h1 _ => by cases h1⟩

end RPVerif.Descr
