import RPVerif.Lemmas.TmgrSched
/-!
Round robin spreads a batch evenly (C12): the positions `RoundRobin._schedule_tasks` visits are
`(w + j) % k`; any `k` consecutive ones hit every pilot once, so loads differ by at most one.
-/
namespace RPVerif.TmgrSched
open List

def visited (k w n : Nat) : List Nat := (range n).map (fun j => (w + j) % k)

theorem visited_nodup (k w n : Nat) (hn : n ≤ k) : (visited k w n).Nodup := by
  unfold visited
  rw [Nodup, pairwise_map]
  exact (pairwise_lt_range (n := n)).imp_of_mem fun _ hb hab =>
    ListAux.add_mod_ne hab (Nat.lt_of_lt_of_le (mem_range.mp hb) hn)

theorem visited_lt (k w n : Nat) (hk : 0 < k) : ∀ x ∈ visited k w n, x < k := by
  intro x hx
  obtain ⟨j, _, rfl⟩ := mem_map.mp hx
  exact Nat.mod_lt _ hk

/-- pigeonhole: `k` distinct naturals below `k` are all of them -/
theorem mem_of_nodup_of_lt_of_length_eq {l : List Nat} {k : Nat} (hn : l.Nodup) (hlt : ∀ x ∈ l, x < k) (hlen : l.length = k)
    {p : Nat} (hp : p < k) : p ∈ l := by
  apply Decidable.byContradiction
  intro hnot
  -- otherwise `l` fits into `range k` without `p`, which has only `k - 1` entries
  have hsub : l ⊆ (range k).erase p := by
    intro x hx
    have hne : x ≠ p := fun e => hnot (e ▸ hx)
    exact (mem_erase_of_ne hne).mpr (mem_range.mpr (hlt x hx))
  have h1 := Nodup.length_le_of_subset hn hsub
  rw [length_erase_of_mem (mem_range.mpr hp), length_range, hlen] at h1
  exact Nat.lt_irrefl _ (Nat.lt_of_le_of_lt h1 (Nat.sub_lt (Nat.zero_lt_of_lt hp) Nat.one_pos))

theorem visited_round (k w : Nat) (hk : 0 < k) (p : Nat) (hp : p < k) : (visited k w k).count p = 1 := by
  have hn := visited_nodup k w k (Nat.le_refl k)
  have hm := mem_of_nodup_of_lt_of_length_eq hn (visited_lt k w k hk) (by simp [visited]) hp
  rw [hn.count, if_pos hm]

theorem visited_add (k w m n : Nat) : visited k w (m + n) = visited k w m ++ visited k (w + m) n := by
  unfold visited
  rw [range_add, map_append, map_map]
  congr 1
  apply map_congr_left
  intro j _
  simp only [Function.comp, Nat.add_assoc]

/-- fewer than `k` visits are distinct, and every further full round adds one to each count -/
theorem visited_balance (k w : Nat) (hk : 0 < k) (n : Nat) {p q : Nat} (hp : p < k) (hq : q < k) :
    (visited k w n).count p ≤ (visited k w n).count q + 1 := by
  induction n using Nat.strongRecOn with
  | _ n ih =>
    by_cases hn : n < k
    · exact Nat.le_add_left_of_le ((nodup_iff_count.mp (visited_nodup k w n (Nat.le_of_lt hn))) p)
    · obtain ⟨m, rfl⟩ : ∃ m, n = m + k := ⟨n - k, (Nat.sub_add_cancel (Nat.le_of_not_lt hn)).symm⟩
      rw [visited_add, count_append, count_append, visited_round k (w + m) hk p hp, visited_round k (w + m) hk q hq]
      exact Nat.add_le_add_right (ih m (Nat.lt_add_of_pos_right hk)) 1

/-- the cursor `RoundRobin._schedule_tasks` uses: the stored index, wrapped when it ran off the list -/
def wrap (k idx : Nat) : Nat := if idx ≥ k then 0 else idx

theorem wrap_lt {k : Nat} (hk : 0 < k) (idx : Nat) : wrap k idx < k := by
  unfold wrap
  split
  · exact hk
  · next h => exact Nat.lt_of_not_le h

theorem visited_wrap {k i : Nat} (h : i ≤ k) (n : Nat) : visited k (wrap k i) n = visited k i n := by
  unfold wrap
  split
  · next hge =>
    obtain rfl := Nat.le_antisymm h hge
    exact map_congr_left fun j _ => by rw [Nat.zero_add, Nat.add_mod_left]
  · rfl

theorem visited_succ (k w n : Nat) : visited k w (n + 1) = w % k :: visited k (w + 1) n := by
  unfold visited
  rw [range_succ_eq_map, map_cons, map_map]
  exact congrArg (_ :: ·) (map_congr_left fun j _ => by simp only [Function.comp, Nat.add_assoc, Nat.add_comm 1 j])

/-- the pilots a batch is forwarded to, in order -/
def targets : List Out → List Nat
  | []                 => []
  | .fwd _ p :: os     => p :: targets os
  | .sched _ :: os     => targets os

theorem targets_eq_fwdPids (outs : List Out) : targets outs = fwdPids outs := by
  induction outs with
  | nil => rfl
  | cons o os ih =>
    cases o with
    | sched u => exact ih
    | fwd u p => exact congrArg (p :: ·) ih

theorem rrAssign_targets (pids : List Nat) (hk : 0 < pids.length) (idx : Nat) (ts : List Task) :
    targets (rrAssign pids idx ts).2
      = (visited pids.length (wrap pids.length idx) ts.length).map (fun i => pids.getD i 0) := by
  induction ts generalizing idx with
  | nil => rfl
  | cons t ts ih =>
    have hw := wrap_lt hk idx
    show pids.getD (wrap pids.length idx) 0 :: targets (rrAssign pids (wrap pids.length idx + 1) ts).2 = _
    -- the index stored for the next task, `wrap .. + 1`, may be `k`: wrapping it changes no position
    rw [ih, visited_wrap (Nat.succ_le_of_lt hw), length_cons, visited_succ, map_cons, Nat.mod_eq_of_lt hw]

/-- how many tasks of a batch are forwarded to pilot `P` -/
def load (P : Nat) (outs : List Out) : Nat := (targets outs).count P

theorem count_map_getD (pids : List Nat) (hn : pids.Nodup) (l : List Nat) (hl : ∀ x ∈ l, x < pids.length) (i : Nat)
    (hi : i < pids.length) : (l.map (fun j => pids.getD j 0)).count pids[i] = l.count i := by
  rw [count_eq_countP, count_eq_countP, countP_map]
  apply countP_congr
  intro x hx
  simp only [Function.comp, getD_eq_getElem?_getD, getElem?_eq_getElem (hl x hx), Option.getD_some, beq_iff_eq]
  exact getElem_inj hn

theorem rrAssign_balance (pids : List Nat) (hn : pids.Nodup) (idx : Nat) (ts : List Task) (P Q : Nat)
    (hP : P ∈ pids) (hQ : Q ∈ pids) :
    load P (rrAssign pids idx ts).2 ≤ load Q (rrAssign pids idx ts).2 + 1 := by
  have hk : 0 < pids.length := length_pos_of_mem hP
  obtain ⟨i, hi, rfl⟩ := List.getElem_of_mem hP
  obtain ⟨j, hj, rfl⟩ := List.getElem_of_mem hQ
  have hlt := visited_lt pids.length (wrap pids.length idx) ts.length hk
  -- the load of the pilot at position `i` is the number of visits of `i`
  rw [load, load, rrAssign_targets pids hk idx ts, count_map_getD pids hn _ hlt i hi, count_map_getD pids hn _ hlt j hj]
  exact visited_balance pids.length (wrap pids.length idx) hk ts.length hi hj

theorem rrAssign_targets_length (pids : List Nat) (hk : 0 < pids.length) (idx : Nat) (ts : List Task) :
    (targets (rrAssign pids idx ts).2).length = ts.length := by
  rw [rrAssign_targets pids hk idx ts, length_map, visited, length_map, length_range]

theorem rrAssign_targets_mem (pids : List Nat) (hk : 0 < pids.length) (idx : Nat) (ts : List Task) :
    ∀ P ∈ targets (rrAssign pids idx ts).2, P ∈ pids := by
  rw [rrAssign_targets pids hk idx ts]
  intro P hP
  obtain ⟨i, hi, rfl⟩ := mem_map.mp hP
  have hlt := visited_lt pids.length (wrap pids.length idx) ts.length hk i hi
  rw [getD_eq_getElem?_getD, getElem?_eq_getElem hlt, Option.getD_some]
  exact getElem_mem hlt

end RPVerif.TmgrSched
