import RPVerif.Model.Sched
import RPVerif.Lemmas.ListAux
/-!
The wait pool of the agent scheduler as a dict of dicts; what `parkTasks` (insertion with the `is_canceled` check) leaves
in a pool.
-/
namespace RPVerif.Sched
open List

/-- the priorities of the wait pool are distinct (it is a dict) -/
def KeysOK (wp : List (Int × List Req)) : Prop := (wp.map (·.1)).Nodup

theorem poolOf_cons (e : Int × List Req) (wp : List (Int × List Req)) (p : Int) :
    poolOf (e :: wp) p = if e.1 = p then e.2 else poolOf wp p := by
  unfold poolOf
  rw [find?_cons]
  by_cases h : e.1 = p <;> simp [h]

theorem poolOf_notin (wp : List (Int × List Req)) (p : Int) (h : ∀ e ∈ wp, e.1 ≠ p) : poolOf wp p = [] := by
  induction wp with
  | nil => rfl
  | cons e wp ih =>
    rw [poolOf_cons, if_neg (h e mem_cons_self)]
    exact ih (fun e' he' => h e' (mem_cons_of_mem _ he'))

theorem poolOf_mem (wp : List (Int × List Req)) (e : Int × List Req) (hk : KeysOK wp) (he : e ∈ wp) : poolOf wp e.1 = e.2 := by
  induction wp with
  | nil => cases he
  | cons x wp ih =>
    rw [poolOf_cons]
    rcases mem_cons.mp he with h | h
    · rw [h, if_pos rfl]
    · have hne : x.1 ≠ e.1 := fun heq => (nodup_cons.mp hk).1 (mem_map.mpr ⟨e, h, heq.symm⟩)
      rw [if_neg hne]
      exact ih (nodup_cons.mp hk).2 h

theorem setPool_eq_upsert (wp : List (Int × List Req)) (p : Int) (l : List Req) :
    setPool wp p l = ListAux.upsert Prod.fst wp (p, l) := rfl

theorem poolOf_setPool_other (wp : List (Int × List Req)) (p q : Int) (l : List Req) (h : q ≠ p) :
    poolOf (setPool wp p l) q = poolOf wp q := by
  unfold poolOf
  rw [setPool_eq_upsert, ListAux.find?_upsert, if_neg h]

theorem poolOf_setPool_same (wp : List (Int × List Req)) (p : Int) (l : List Req) : poolOf (setPool wp p l) p = l := by
  unfold poolOf
  rw [setPool_eq_upsert, ListAux.find?_upsert, if_pos rfl]

theorem setPool_single (p : Int) (l l' : List Req) : setPool [(p, l)] p l' = [(p, l')] := by
  unfold setPool
  rw [any_cons, decide_eq_true rfl, Bool.true_or, if_pos rfl, map_cons, if_pos rfl, map_nil]

theorem keysOK_map (wp : List (Int × List Req)) (g : Int × List Req → Int × List Req) (hg : ∀ e, (g e).1 = e.1)
    (hk : KeysOK wp) : KeysOK (wp.map g) := by
  unfold KeysOK at *
  rw [map_map]
  have : ((fun x : Int × List Req => x.1) ∘ g) = fun x => x.1 := funext hg
  rw [this]; exact hk

theorem keysOK_setPool (wp : List (Int × List Req)) (p : Int) (l : List Req) (hk : KeysOK wp) : KeysOK (setPool wp p l) := by
  unfold KeysOK at *
  rw [setPool_eq_upsert, ListAux.map_key_upsert]
  split
  · exact hk
  · rename_i h
    rw [nodup_append]
    refine ⟨hk, by simp, fun a ha b hb => ?_⟩
    obtain ⟨e, he, rfl⟩ := mem_map.mp ha
    rw [mem_singleton.mp hb]
    exact fun heq => h (any_eq_true.mpr ⟨e, he, decide_eq_true heq⟩)

theorem removeFromPools_cases (wp : List (Int × List Req)) (uid : Nat) :
    (wp.find? (fun e => e.2.any (fun r => r.uid = uid)) = none ∧ removeFromPools wp uid = (wp, none))
    ∨ ∃ e, wp.find? (fun e => e.2.any (fun r => r.uid = uid)) = some e
        ∧ removeFromPools wp uid
            = (wp.map (fun x => if x.1 = e.1 then (x.1, x.2.filter (fun r => r.uid ≠ uid)) else x),
               e.2.find? (fun r => r.uid = uid)) := by
  unfold removeFromPools
  cases wp.find? (fun e => e.2.any (fun r => r.uid = uid)) with
  | none => exact Or.inl ⟨rfl, rfl⟩
  | some e => exact Or.inr ⟨e, rfl, rfl⟩

/-- a cancel message only filters -/
theorem removeFromPools_map (wp : List (Int × List Req)) (uid : Nat) :
    ∃ P : Int × List Req → Bool,
      (removeFromPools wp uid).1 = wp.map (fun x => if P x then (x.1, x.2.filter (fun r => r.uid ≠ uid)) else x) := by
  rcases removeFromPools_cases wp uid with ⟨_, h⟩ | ⟨e, _, h⟩
  · exact ⟨fun _ => false, by rw [h]; simp⟩
  · exact ⟨fun x => decide (x.1 = e.1), by rw [h]; simp⟩

theorem removeFromPools_uid (wp : List (Int × List Req)) (uid : Nat) (t : Req)
    (ht : (removeFromPools wp uid).2 = some t) : t.uid = uid := by
  rcases removeFromPools_cases wp uid with ⟨_, h⟩ | ⟨e, _, h⟩
  · rw [h] at ht; cases ht
  · rw [h] at ht
    -- the task returned was found by its uid
    exact of_decide_eq_true (find?_some (p := fun r : Req => decide (r.uid = uid)) ht)

theorem poolInsert_eq_upsert (l : List Req) (t : Req) : poolInsert l t = ListAux.upsert Req.uid l t := rfl

theorem poolInsert_ne (l : List Req) (t : Req) (uid : Nat) (hl : ∀ r ∈ l, r.uid ≠ uid) (ht : t.uid ≠ uid) :
    ∀ r ∈ poolInsert l t, r.uid ≠ uid := by
  intro r hr
  rw [poolInsert_eq_upsert] at hr
  rcases ListAux.mem_upsert Req.uid hr with h | h
  · rw [h]; exact ht
  · exact hl r h

theorem parkTasks_absent (p : Int) (uid : Nat) (ts : List Req) (s : SchedSt) (evs : List Ev)
    (hts : ∀ t ∈ ts, t.uid ≠ uid) (hp : ∀ r ∈ poolOf s.waitpool p, r.uid ≠ uid) :
    ∀ r ∈ poolOf (parkTasks p s ts evs).1.waitpool p, r.uid ≠ uid := by
  fun_induction parkTasks p s ts evs
  case case1 => exact hp
  case case2 s t ts evs _ ih =>
    refine ih (fun x hx => hts x (mem_cons_of_mem _ hx)) ?_
    simp only [poolOf_setPool_same]
    exact fun r hr => poolInsert_ne _ t uid hp (hts t mem_cons_self) r (mem_filter.mp hr).1
  case case3 s t ts evs _ ih =>
    refine ih (fun x hx => hts x (mem_cons_of_mem _ hx)) ?_
    simp only [poolOf_setPool_same]
    exact poolInsert_ne _ t uid hp (hts t mem_cons_self)

/-- the marked task is taken out again at once, and the marks of the others do not touch it -/
theorem parkTasks_marked (p : Int) (uid : Nat) (ts : List Req) (s : SchedSt) (evs : List Ev)
    (hm : uid ∈ s.cancel) (hnd : (ts.map (·.uid)).Nodup) (hp : ∀ r ∈ poolOf s.waitpool p, r.uid ≠ uid) :
    ∀ r ∈ poolOf (parkTasks p s ts evs).1.waitpool p, r.uid ≠ uid := by
  fun_induction parkTasks p s ts evs
  case case1 => exact hp
  case case2 s t ts evs hc ih =>
    rw [map_cons, nodup_cons] at hnd
    by_cases ht : t.uid = uid
    · apply parkTasks_absent p uid ts _ _ (fun x hx hxu => hnd.1 (mem_map.mpr ⟨x, hx, hxu.trans ht.symm⟩))
      simp only [poolOf_setPool_same]
      intro r hr
      simpa [ht] using (mem_filter.mp hr).2
    · -- another marked task: it leaves `uid` marked and absent
      refine ih ((mem_erase_of_ne (fun h => ht h.symm)).mpr hm) hnd.2 ?_
      simp only [poolOf_setPool_same]
      exact fun r hr => poolInsert_ne _ t uid hp ht r (mem_filter.mp hr).1
  case case3 s t ts evs hc ih =>
    rw [map_cons, nodup_cons] at hnd
    refine ih hm hnd.2 ?_
    simp only [poolOf_setPool_same]
    exact poolInsert_ne _ t uid hp (fun ht => hc (ht ▸ hm))

end RPVerif.Sched
